import SuitVerif.Props.C01
import SuitVerif.Props.C02
import SuitVerif.Props.C03
import SuitVerif.Props.C04
import SuitVerif.Props.C05
import SuitVerif.Props.C06
import SuitVerif.Props.C07
import SuitVerif.Props.C08
import SuitVerif.Props.C09
import SuitVerif.Props.C10
import SuitVerif.Props.C11
import SuitVerif.Props.C12
import SuitVerif.Props.C13
import SuitVerif.Props.C14
import SuitVerif.Props.C15
import SuitVerif.Props.C16
import SuitVerif.Props.C17
import SuitVerif.Props.C18
import SuitVerif.Props.C19
import SuitVerif.Props.C20
/-! Everything that is proved.  `SuitVerif.lean` is the root of the model alone (what the driver needs, and what `setup.sh` builds);
the checks build `SuitVerif.Props.Cxx` one at a time; plain `lake build` builds this file too and so checks every theorem. -/
