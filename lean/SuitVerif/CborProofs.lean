import SuitVerif.Cbor
/-! Proofs about L1: what `decHead` reads off a head, decoder/encoder round trip in both modes, soundness of the strict
decoder (`dec true` accepts only `enc c ++ rest`), prefix-freeness and injectivity of `enc`; `==` on `Cbor` is equality;
the integer view `Cbor.ofInt`. -/
namespace SuitVerif

theorem head_eq (major n : Nat) :
    (n < 24 ∧ head major n = [UInt8.ofNat (major * 32 + n)]) ∨
    ∃ ai w, 24 ≤ ai ∧ ai ≤ 27 ∧ aiWidth ai = w ∧ w ≤ 8 ∧ (n < 2 ^ 64 → n < 256 ^ w) ∧
      head major n = UInt8.ofNat (major * 32 + ai) :: beBytes w n := by
  by_cases h1 : n < 24
  · exact .inl ⟨h1, if_pos h1⟩
  refine .inr ?_
  by_cases h2 : n < 256
  · exact ⟨24, 1, by decide, by decide, rfl, by decide, fun _ => h2, by rw [head, if_neg h1, if_pos h2]⟩
  by_cases h3 : n < 65536
  · exact ⟨25, 2, by decide, by decide, rfl, by decide, fun _ => h3,
      by rw [head, if_neg h1, if_neg h2, if_pos h3]⟩
  by_cases h4 : n < 4294967296
  · exact ⟨26, 4, by decide, by decide, rfl, by decide, fun _ => h4,
      by rw [head, if_neg h1, if_neg h2, if_neg h3, if_pos h4]⟩
  · exact ⟨27, 8, by decide, by decide, rfl, by decide, id,
      by rw [head, if_neg h1, if_neg h2, if_neg h3, if_neg h4]⟩

theorem head_length (m n : Nat) : 1 ≤ (head m n).length ∧ (head m n).length ≤ 9 := by
  rcases head_eq m n with ⟨_, h⟩ | ⟨_, w, _, _, _, _, _, h⟩ <;> rw [h] <;> simp [beBytes_length] <;> omega

/-- `ai < 28`: the first byte of a head is never the break code 0xFF -/
theorem head_first (major n : Nat) : ∃ ai rest, head major n = UInt8.ofNat (major * 32 + ai) :: rest ∧ ai < 28 := by
  rcases head_eq major n with ⟨h24, h⟩ | ⟨ai, _, _, _, _, _, _, h⟩
  · exact ⟨n, [], h, by omega⟩
  · exact ⟨ai, _, h, by omega⟩

theorem initial_byte {major ai : Nat} (hm : major < 8) (hai : ai < 32) :
    (UInt8.ofNat (major * 32 + ai)).toNat / 32 = major ∧ (UInt8.ofNat (major * 32 + ai)).toNat % 32 = ai := by
  rw [u8_toNat_ofNat (by omega)]; omega

theorem decHead_cons_small (strict : Bool) (major n : Nat) (rest : Bytes) (hm : major < 8) (hn : n < 24) :
    decHead strict (UInt8.ofNat (major * 32 + n) :: rest) = some (major, n, rest) := by
  obtain ⟨hd, hr⟩ := initial_byte hm (show n < 32 by omega)
  simp only [decHead, hd, hr, hn, if_true]

/-- `hs`: the strict reader also wants the shortest form -/
theorem decHead_cons_wide (strict : Bool) (major ai w n : Nat) (rest : Bytes) (hm : major < 8) (hai : 24 ≤ ai ∧ ai ≤ 27)
    (hw : aiWidth ai = w) (hn : n < 256 ^ w)
    (hs : strict = true → head major n = UInt8.ofNat (major * 32 + ai) :: beBytes w n) :
    decHead strict (UInt8.ofNat (major * 32 + ai) :: (beBytes w n ++ rest)) = some (major, n, rest) := by
  -- first, while the context is small: `omega` would take the divisions in `hd`, `hr` along
  have hwpos : w ≠ 0 := by
    obtain rfl | rfl | rfl | rfl : ai = 24 ∨ ai = 25 ∨ ai = 26 ∨ ai = 27 := by omega
    all_goals subst hw; decide
  obtain ⟨hd, hr⟩ := initial_byte hm (show ai < 32 by omega)
  have hl : (beBytes w n).length = w := beBytes_length _ _
  have hlen : ¬ (beBytes w n ++ rest).length < w := by simp [hl]
  simp only [decHead, hd, hr, hw, Nat.not_lt.mpr hai.1, if_false, hwpos, hlen, List.take_left' hl, List.drop_left' hl,
    ofBe_beBytes w n hn]
  cases strict with
  | false => rfl
  | true => simp [hs rfl]

theorem decHead_head (strict : Bool) (major n : Nat) (rest : Bytes) (hm : major < 8) (hn : n < 2 ^ 64) :
    decHead strict (head major n ++ rest) = some (major, n, rest) := by
  rcases head_eq major n with ⟨h24, h⟩ | ⟨ai, w, h1, h2, hw, _, hnw, h⟩
  · rw [h]; exact decHead_cons_small strict major n rest hm h24
  · rw [h]; exact decHead_cons_wide strict major ai w n rest hm ⟨h1, h2⟩ hw (hnw hn) (fun _ => h)

-- the recursion of this block is on the value `c` (structural), so `cases fuel` is harmless here
mutual
theorem dec_enc (strict : Bool) (c : Cbor) (rest : Bytes) (fuel : Nat) (hw : c.wf = true)
    (hf : c.depth ≤ fuel) : dec strict fuel (enc c ++ rest) = some (c, rest) := by
  cases fuel with
  | zero => cases c <;> simp [Cbor.depth] at hf
  | succ fuel =>
    -- `enc c` is a head and a payload: `decHead_head` reads the head back, the branch of `dec` for its major type the payload
    cases c <;> simp only [Cbor.wf, Bool.and_eq_true, decide_eq_true_eq] at hw <;>
      simp only [Cbor.depth, Nat.add_le_add_iff_right] at hf
    case arr xs => simp [enc, dec, decHead_head, hw.1, decList_enc strict xs rest fuel hw.2 hf]
    case map kvs => simp [enc, dec, decHead_head, hw.1, decPairs_enc strict kvs rest fuel hw.2 hf]
    case tag t v => simp [enc, dec, decHead_head, hw.1, dec_enc strict v rest fuel hw.2 hf]
    case simple n => simp [enc, dec, decHead_head, hw, show n < 2 ^ 64 by omega]
    all_goals simp [enc, dec, decHead_head, hw]
theorem decList_enc (strict : Bool) (xs : List Cbor) (rest : Bytes) (fuel : Nat) (hw : wfList xs = true)
    (hf : depthList xs ≤ fuel) :
    decList strict fuel xs.length (encList xs ++ rest) = some (xs, rest) := by
  cases fuel with
  | zero => cases xs <;> simp [depthList] at hf
  | succ fuel =>
    cases xs with
    | nil => rfl
    | cons x xs =>
      simp only [wfList, Bool.and_eq_true] at hw
      simp only [depthList, Nat.add_le_add_iff_right, Nat.max_le] at hf
      simp [decList, encList, dec_enc strict x (encList xs ++ rest) fuel hw.1 hf.1, decList_enc strict xs rest fuel hw.2 hf.2]
theorem decPairs_enc (strict : Bool) (xs : List (Cbor × Cbor)) (rest : Bytes) (fuel : Nat) (hw : wfPairs xs = true)
    (hf : depthPairs xs ≤ fuel) :
    decPairs strict fuel xs.length (encPairs xs ++ rest) = some (xs, rest) := by
  cases fuel with
  | zero => cases xs <;> simp [depthPairs] at hf
  | succ fuel =>
    cases xs with
    | nil => rfl
    | cons x xs =>
      obtain ⟨k, v⟩ := x
      simp only [wfPairs, Bool.and_eq_true] at hw
      simp only [depthPairs, Nat.add_le_add_iff_right, Nat.max_le] at hf
      simp [decPairs, encPairs, dec_enc strict k (enc v ++ (encPairs xs ++ rest)) fuel hw.1.1 hf.1.1,
        dec_enc strict v (encPairs xs ++ rest) fuel hw.1.2 hf.1.2, decPairs_enc strict xs rest fuel hw.2 hf.2]
end

theorem decHead_strict_sound (bs : Bytes) (major n : Nat) (rest : Bytes)
    (h : decHead true bs = some (major, n, rest)) : bs = head major n ++ rest ∧ major < 8 := by
  cases bs with
  | nil => cases h
  | cons b tl =>
    have hb : b.toNat / 32 < 8 := Nat.div_lt_of_lt_mul b.toNat_lt
    by_cases hai : b.toNat % 32 < 24
    · simp only [decHead, hai, if_true] at h
      cases h
      simp only [head, hai, if_true, Nat.div_add_mod', UInt8.ofNat_toNat]
      exact ⟨rfl, hb⟩
    · -- the strict reader has compared the bytes it consumed with `head`
      simp only [decHead, hai, if_false, Option.ite_none_left_eq_some, Bool.true_and, Bool.not_eq_true', beq_eq_false_iff_ne,
        ne_eq, Decidable.not_not, Option.some.injEq, Prod.mk.injEq] at h
      obtain ⟨_, _, hs, rfl, rfl, rfl⟩ := h
      rw [hs]
      exact ⟨by simp, hb⟩

theorem take_drop_eq (n : Nat) (l : Bytes) : l = l.take n ++ l.drop n := (List.take_append_drop n l).symm

-- `match` on the fuel, not `cases`: the three proofs are then compiled by structural recursion on it, which is far
-- cheaper to check than the well-founded recursion Lean falls back to otherwise
mutual
theorem dec_strict_sound (fuel : Nat) (bs : Bytes) (c : Cbor) (r : Bytes)
    (h : dec true fuel bs = some (c, r)) : bs = enc c ++ r := by
  match fuel, h with
  | 0, h => cases h
  | fuel+1, h =>
    match hh : decHead true bs with
    | none => simp [dec, hh] at h
    | some (major, n, rest) =>
      obtain ⟨rfl, hm⟩ := decHead_strict_sound bs major n rest hh
      obtain rfl | rfl | rfl | rfl | rfl | rfl | rfl | rfl :
        major = 0 ∨ major = 1 ∨ major = 2 ∨ major = 3 ∨ major = 4 ∨ major = 5 ∨ major = 6 ∨ major = 7 := by omega
      all_goals simp only [dec, hh] at h
      · cases h; rfl
      · cases h; rfl
      · split at h <;> cases h
        simp [enc, Nat.le_of_not_lt ‹_›]
      · split at h <;> cases h
        simp [enc, Nat.le_of_not_lt ‹_›]
      · split at h <;> cases h
        obtain ⟨rfl, rfl⟩ := decList_strict_sound _ _ _ _ _ ‹_›
        simp [enc]
      · split at h <;> cases h
        obtain ⟨rfl, rfl⟩ := decPairs_strict_sound _ _ _ _ _ ‹_›
        simp [enc]
      · split at h <;> cases h
        obtain rfl := dec_strict_sound _ _ _ _ ‹_›
        simp [enc]
      · split at h <;> cases h
        rfl
theorem decList_strict_sound (fuel k : Nat) (bs : Bytes) (xs : List Cbor) (r : Bytes)
    (h : decList true fuel k bs = some (xs, r)) : xs.length = k ∧ bs = encList xs ++ r := by
  match fuel, k, h with
  | 0, _, h => cases h
  | _+1, 0, h => cases h; exact ⟨rfl, rfl⟩
  | fuel+1, k+1, h =>
    simp only [decList] at h
    split at h
    · cases h
    · next hd =>
      split at h
      · cases h
      · next hl =>
        cases h
        obtain rfl := dec_strict_sound _ _ _ _ hd
        obtain ⟨rfl, rfl⟩ := decList_strict_sound _ _ _ _ _ hl
        simp [encList]
theorem decPairs_strict_sound (fuel k : Nat) (bs : Bytes) (xs : List (Cbor × Cbor)) (r : Bytes)
    (h : decPairs true fuel k bs = some (xs, r)) : xs.length = k ∧ bs = encPairs xs ++ r := by
  match fuel, k, h with
  | 0, _, h => cases h
  | _+1, 0, h => cases h; exact ⟨rfl, rfl⟩
  | fuel+1, k+1, h =>
    simp only [decPairs] at h
    split at h
    · cases h
    · next hd =>
      split at h
      · cases h
      · next hd2 =>
        split at h
        · cases h
        · next hl =>
          cases h
          obtain rfl := dec_strict_sound _ _ _ _ hd
          obtain rfl := dec_strict_sound _ _ _ _ hd2
          obtain ⟨rfl, rfl⟩ := decPairs_strict_sound _ _ _ _ _ hl
          simp [encPairs]
end

theorem decodeStrict_sound (b : Bytes) (c : Cbor) (h : decodeStrict b = some c) : b = enc c := by
  unfold decodeStrict at h
  split at h
  · next heq => cases h; simpa using dec_strict_sound _ _ _ _ heq
  · cases h

/-- the head's one byte or more pays for one level of nesting above what the payload `p` holds -/
theorem depth_step (major n : Nat) (p : Bytes) {e : Bytes} {d : Nat} (he : e = head major n ++ p) (h : d ≤ 2 * p.length + 1) :
    d + 1 ≤ 2 * e.length ∧ 1 ≤ e.length := by
  have := (head_length major n).1
  rw [he, List.length_append]; omega

mutual
theorem depth_le (c : Cbor) : c.depth ≤ 2 * (enc c).length ∧ 1 ≤ (enc c).length :=
  match c with
  | .uint n => depth_step 0 n [] (List.append_nil _).symm (Nat.zero_le _)
  | .nint n => depth_step 1 n [] (List.append_nil _).symm (Nat.zero_le _)
  | .bstr b => depth_step 2 _ b rfl (Nat.zero_le _)
  | .tstr b => depth_step 3 _ b rfl (Nat.zero_le _)
  | .arr xs => depth_step 4 _ _ rfl (depthList_le xs)
  | .map kvs => depth_step 5 _ _ rfl (depthPairs_le kvs)
  | .tag t v => depth_step 6 t _ rfl (Nat.le_succ_of_le (depth_le v).1)
  | .simple n => depth_step 7 n [] (List.append_nil _).symm (Nat.zero_le _)
theorem depthList_le (xs : List Cbor) : depthList xs ≤ 2 * (encList xs).length + 1 := by
  cases xs with
  | nil => simp [depthList, encList]
  | cons x xs =>
    have := depth_le x
    have := depthList_le xs
    simp only [depthList, encList, List.length_append]; omega
theorem depthPairs_le (xs : List (Cbor × Cbor)) : depthPairs xs ≤ 2 * (encPairs xs).length + 1 := by
  cases xs with
  | nil => simp [depthPairs, encPairs]
  | cons x xs =>
    obtain ⟨k, v⟩ := x
    have := depth_le k
    have := depth_le v
    have := depthPairs_le xs
    simp only [depthPairs, encPairs, List.length_append]; omega
end

theorem depth_le_fuelFor (c : Cbor) (rest : Bytes) : c.depth ≤ fuelFor (enc c ++ rest) := by
  have := (depth_le c).1
  simp only [fuelFor, List.length_append]; omega

theorem decodeStrict_enc (c : Cbor) (hw : c.wf = true) : decodeStrict (enc c) = some c := by
  have := dec_enc true c [] _ hw (depth_le_fuelFor c [])
  rw [List.append_nil] at this
  simp [decodeStrict, this]

/-- `cbor2.loads (cbor2.dumps v) = v` on the modelled subset, with trailing bytes ignored -/
theorem loads_enc (c : Cbor) (rest : Bytes) (hw : c.wf = true) : loads (enc c ++ rest) = some c := by
  simp [loads, dec_enc false c rest _ hw (depth_le_fuelFor c rest)]

theorem enc_prefix_free (a b : Cbor) (r s : Bytes) (ha : a.wf = true) (hb : b.wf = true)
    (h : enc a ++ r = enc b ++ s) : a = b ∧ r = s := by
  -- with fuel for both, the decoder reads `a` and `r` off the left side and `b` and `s` off the right
  have da := dec_enc false a r (max a.depth b.depth) ha (Nat.le_max_left _ _)
  have db := dec_enc false b s (max a.depth b.depth) hb (Nat.le_max_right _ _)
  rw [h, db] at da
  cases da; exact ⟨rfl, rfl⟩

theorem enc_injective (a b : Cbor) (ha : a.wf = true) (hb : b.wf = true) (h : enc a = enc b) : a = b :=
  (enc_prefix_free a b [] [] ha hb (congrArg (· ++ []) h)).1

mutual
theorem Cbor.beq_iff : ∀ a b : Cbor, Cbor.beq a b = true ↔ a = b
  | .uint _, b | .nint _, b | .bstr _, b | .tstr _, b | .simple _, b => by cases b <;> simp [Cbor.beq]
  | .arr xs, b => by cases b <;> simp [Cbor.beq, Cbor.beqList_iff xs]
  | .map xs, b => by cases b <;> simp [Cbor.beq, Cbor.beqPairs_iff xs]
  | .tag _ v, b => by cases b <;> simp [Cbor.beq, Cbor.beq_iff v]
theorem Cbor.beqList_iff : ∀ a b : List Cbor, Cbor.beqList a b = true ↔ a = b
  | [], b => by cases b <;> simp [Cbor.beqList]
  | x :: xs, b => by cases b <;> simp [Cbor.beqList, Cbor.beq_iff x, Cbor.beqList_iff xs]
theorem Cbor.beqPairs_iff : ∀ a b : List (Cbor × Cbor), Cbor.beqPairs a b = true ↔ a = b
  | [], b => by cases b <;> simp [Cbor.beqPairs]
  | (k, v) :: xs, b => by
    rcases b with _ | ⟨⟨k', v'⟩, ys⟩ <;> simp [Cbor.beqPairs, Cbor.beq_iff k, Cbor.beq_iff v, Cbor.beqPairs_iff xs, and_assoc]
end

instance : LawfulBEq Cbor where
  rfl := (Cbor.beq_iff _ _).mpr rfl
  eq_of_beq := (Cbor.beq_iff _ _).mp

theorem Cbor.ofInt_nat (k : Nat) : Cbor.ofInt (k : Int) = .uint k := by
  simp [Cbor.ofInt]

theorem Cbor.toInt_ofInt (i : Int) : (Cbor.ofInt i).toInt? = some i := by
  unfold Cbor.ofInt; split <;> simp [Cbor.toInt?] <;> omega

theorem Cbor.ofInt_inj {a b : Int} (h : Cbor.ofInt a = Cbor.ofInt b) : a = b := by
  have := congrArg Cbor.toInt? h; simpa [Cbor.toInt_ofInt] using this

theorem Cbor.ofInt_wf (i : Int) (h : -(2 ^ 64 : Int) ≤ i ∧ i < 2 ^ 64) : (Cbor.ofInt i).wf = true := by
  unfold Cbor.ofInt; split <;> simp only [Cbor.wf, decide_eq_true_eq] <;> omega

theorem Cbor.enc_ofInt_length (i : Int) : (enc (Cbor.ofInt i)).length ≤ 9 := by
  unfold Cbor.ofInt; split <;> exact (head_length _ _).2


end SuitVerif
