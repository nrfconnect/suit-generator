import SuitVerif.ReadsBack
import SuitVerif.CborDict
/-! Read-back step for key/value maps with integer keys only (manifest, common section, parameters, header maps …):
entries `ps` with pairwise different codes, none of them a flattened payload map. -/
namespace SuitVerif.ReadsBack
open SuitVerif SuitVerif.Py SuitVerif.Decode SuitVerif.RoundTrip

def kvsOf (ps : List (Entry × Node)) : List (Cbor × Cbor) := ps.map (fun p => (Cbor.ofInt p.1.id, p.2.toVal))
def nodesOf (ps : List (Entry × Node)) : List (KvKey × Node) := ps.map (fun p => (entryKey p.1, p.2))

theorem pyDictSet_fresh (d : List (Cbor × Cbor)) (k v : Cbor) (h : ∀ e ∈ d, keyCanon e.1 ≠ keyCanon k) :
    pyDictSet d k v = d ++ [(k, v)] :=
  if_neg fun hc => let ⟨e, he, hk⟩ := List.any_eq_true.mp hc; h e he (eq_of_beq hk)

theorem kvSet_fresh (d : List (KvKey × Node)) (k : KvKey) (v : Node) (h : ∀ e ∈ d, ¬ (e.1 == k) = true) :
    kvSet d k v = d ++ [(k, v)] :=
  if_neg fun hc => let ⟨e, he, hk⟩ := List.any_eq_true.mp hc; h e he hk

theorem kvPairs_nodesOf (ps : List (Entry × Node)) (pre : List (Entry × Node))
    (hm : ∀ p ∈ ps, p.1.merge = false) (hd : (pre.map (·.1.id) ++ ps.map (·.1.id)).Nodup) :
    kvPairs (nodesOf ps) (kvsOf pre) = kvsOf (pre ++ ps) := by
  obtain ⟨-, hps, hdisj⟩ := List.nodup_append.mp hd
  rw [kvPairs_fresh (nodesOf ps) (kvsOf pre) (List.forall_mem_map.mpr hm)
    (by simpa [nodesOf, entryKey, Function.comp_def] using hps)]
  · simp [kvsOf, nodesOf, entryKey]
  · simp only [nodesOf, kvsOf, List.forall_mem_map, List.any_map, List.any_eq_false, Function.comp_apply, beq_iff_eq, entryKey]
    exact fun p hp q hq h => hdisj _ (List.mem_map_of_mem hq) _ (List.mem_map_of_mem hp) (Cbor.ofInt_inj h)

theorem kvkey_beq_id (a b : KvKey) (h : (a == b) = true) : a.id = b.id := by
  rw [eq_of_beq h]

/-! ### what `cbor2.loads` hands over for such a map is the map itself -/

theorem normPairs_kvsOf (ps : List (Entry × Node)) (hn : ∀ p ∈ ps, norm p.2.toVal = some p.2.toVal) :
    normPairs (kvsOf ps) = some (kvsOf ps) := by
  induction ps with
  | nil => rfl
  | cons p ps ih =>
    have h2 := ih (fun q hq => hn q (by simp [hq]))
    simp only [kvsOf, List.map_cons] at h2 ⊢
    simp only [normPairs, norm_ofInt, hn p (by simp), h2]

theorem norm_map_kvsOf (ps : List (Entry × Node)) (hn : ∀ p ∈ ps, norm p.2.toVal = some p.2.toVal)
    (hd : (ps.map (·.1.id)).Nodup) : norm (.map (kvsOf ps)) = some (.map (kvsOf ps)) := by
  have hfold : (kvsOf ps).foldl (fun d e => pyDictSet d e.1 e.2) [] = kvsOf ps := by
    rw [kvsOf, List.foldl_map]
    exact foldl_fresh _ _ (fun e p => keyCanon e.1 = keyCanon (Cbor.ofInt p.1.id)) (fun d p => pyDictSet_fresh d _ _) ps []
      (by simp) ((List.pairwise_map.mp hd).imp fun hne h => hne (by rw [keyCanon_ofInt, keyCanon_ofInt] at h; exact Cbor.ofInt_inj h))
  simp only [norm, normPairs_kvsOf ps hn, Option.map_some, hfold]

theorem fromKvs_reads {g : Guards} {s : Schema} (es : List Entry) (emb : Option String) (ps : List (Entry × Node))
    (acc : List (KvKey × Node))
    (h : ∀ p ∈ ps, es.find? (fun e => e.id == p.1.id) = some p.1 ∧ Reads g s p.1.cls (ensure p.2.toVal) p.2) :
    Eventually (fun fuel => fromKvs g s fuel es emb (kvsOf ps) acc)
      (.ok (ps.foldl (fun a p => kvSet a (entryKey p.1) p.2) acc)) := by
  induction ps generalizing acc with
  | nil => exact .of_succ fun _ => by simp only [kvsOf, List.map_nil, fromKvs, List.foldl_nil]
  | cons p ps ih =>
    exact Eventually.step₂ (h p (by simp)).2 (ih (kvSet acc (entryKey p.1) p.2) fun q hq => h q (by simp [hq])) fun k h1 h2 => by
      rw [kvsOf, List.map_cons]
      unfold fromKvs
      simp only [lookupId_ofInt, (h p (by simp)).1, h1, bind, Except.bind, List.foldl_cons]
      exact h2

theorem reads_kv {g : Guards} {s : Schema} {c : Cls} (es : List Entry) (emb : Option String) (ps : List (Entry × Node))
    (hty : s.ty c = some (.keyValue es emb))
    (hw : (Cbor.map (kvsOf ps)).wf = true)
    (hd : (ps.map (·.1.id)).Nodup)
    (hn : ∀ p ∈ ps, norm p.2.toVal = some p.2.toVal)
    (h : ∀ p ∈ ps, es.find? (fun e => e.id == p.1.id) = some p.1 ∧ Reads g s p.1.cls (ensure p.2.toVal) p.2) :
    Reads g s c (enc (.map (kvsOf ps))) (.kv (nodesOf ps)) := by
  have hfold : ps.foldl (fun a p => kvSet a (entryKey p.1) p.2) [] = nodesOf ps :=
    foldl_fresh _ _ (fun e p => (e.1 == entryKey p.1) = true) (fun d p => kvSet_fresh d _ _) ps []
      (by simp) ((List.pairwise_map.mp hd).imp fun hne h => hne (kvkey_beq_id _ _ h))
  exact Eventually.step (fromKvs_reads es emb ps [] h) fun k hk => by
    simp only [fromBytes, hty, leafFrom, deser_enc _ hw (norm_map_kvsOf ps hn hd), hk, bind, Except.bind, pure, Except.pure,
      hfold]

theorem kv_toBytes (ps : List (Entry × Node)) (hm : ∀ p ∈ ps, p.1.merge = false) (hd : (ps.map (·.1.id)).Nodup) :
    (Node.kv (nodesOf ps)).toBytes = enc (.map (kvsOf ps)) := by
  rw [Node.toBytes]
  exact congrArg (fun m => enc (.map m)) (kvPairs_nodesOf ps [] hm (by simpa using hd))

end SuitVerif.ReadsBack
