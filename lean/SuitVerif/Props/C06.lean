import SuitVerif.Encrypt
import SuitVerif.RoundTrip
import SuitVerif.Encode
import SuitVerif.Generated.Consts
/-! # C06 — encryption artifacts are mutually consistent and decrypt to the firmware -/
namespace SuitVerif.Props.C06
open SuitVerif SuitVerif.Encrypt

/-- **AAD ↔ published header.** The additional authenticated data the encrypt script hands to the KMS (read from the
running code on this run) *is* the COSE Enc_structure `["Encrypt", protected, h'']` of the protected header it later
publishes, `{1: 3}`.  If either side is changed alone, this stops checking. -/
theorem C06_aad : Generated.aadLiteral = encStructure protectedHeader := by decide +kernel

/-- the published protected header names AES-GCM-256, the recipient the direct key (−6) in the extracted enum -/
theorem C06_algs : ("COSE_ALG_AES_GCM_256", (3 : Int)) ∈ Generated.coseEncryptAlgs
    ∧ ("COSE_ALG_DIRECT", (-6 : Int)) ∈ Generated.coseEncryptAlgs
    ∧ protectedHeader = [0xA1, 0x01, 0x03] := by decide +kernel

/-- **generate-info alters no byte.** For a blob of at least 28 bytes: IV (12) || tag (16) || ciphertext reassembles
the blob, and the emitted payload is tag || ciphertext = the blob without its first 12 bytes. -/
theorem C06_split (asset : Bytes) (h : 28 ≤ asset.length) :
    let (iv, tag, ct) := splitAsset asset
    iv.length = 12 ∧ tag.length = 16 ∧ iv ++ tag ++ ct = asset ∧ tag ++ ct = asset.drop 12 := by
  have h28 : asset.drop 28 = (asset.drop 12).drop 16 := by simp
  simp only [splitAsset, h28]
  refine ⟨by simp; omega, by simp; omega, ?_, ?_⟩
  · rw [List.append_assoc, List.take_append_drop, List.take_append_drop]
  · rw [List.take_append_drop]

/-- `item`: the CEK or `nil`; `2^33`: a CEK below `2^32` bytes with its head -/
theorem info_wf (iv : Bytes) (item : Cbor) (keyId kwAlg : Int) (hkw : -(2 ^ 64 : Int) ≤ kwAlg ∧ kwAlg < 2 ^ 64)
    (hiv : iv.length < 2 ^ 32) (hiw : item.wf = true) (hil : (enc item).length < 2 ^ 33) :
    let inner := (Cbor.tag 96 (.arr [
      .bstr protectedHeader, .map [(.uint 5, .bstr iv)], Cbor.null,
      .arr [.arr [.bstr [], .map [(.uint 1, Cbor.ofInt kwAlg), (.uint 4, .bstr (enc (Cbor.ofInt keyId)))], item]]]))
    inner.wf = true ∧ (enc inner).length < 2 ^ 64 := by
  have hph : protectedHeader.length = 3 := by decide
  constructor
  · have := Cbor.enc_ofInt_length keyId
    simp only [Cbor.wf, wfList, wfPairs, Cbor.ofInt_wf kwAlg hkw, hiw, hph, Bool.and_true, Bool.and_eq_true,
      decide_eq_true_eq, List.length_cons, List.length_nil, Cbor.null]
    omega
  · simp only [enc, encList, encPairs, List.length_append, List.length_nil, List.length_cons, Cbor.null, hph]
    -- a dozen heads of at most 9 bytes each, the IV, `item`, and two encoded integers of at most 9 bytes
    grind [head_length, Cbor.enc_ofInt_length]

def cekItem (cek : Option Bytes) : Cbor := match cek with | some c => .bstr c | none => Cbor.null

/-- **Shape of the encryption info.** Reading `suit_encryption_info.bin` with the strict reader gives a byte string
wrapping tag 96 over `[protected {1:3}, {5: iv}, nil, [[h'', {1: kw, 4: bstr .cbor key-id}, cek]]]` - i.e. exactly the
IV, key identifier, key-wrap algorithm and CEK that went in.  All key ids in [-2^64, 2^64), IV and CEK below 2^32 bytes. -/
theorem C06_info_shape (iv : Bytes) (cek : Option Bytes) (keyId kwAlg : Int)
    (hk : -(2 ^ 64 : Int) ≤ keyId ∧ keyId < 2 ^ 64) (hkw : -(2 ^ 64 : Int) ≤ kwAlg ∧ kwAlg < 2 ^ 64)
    (hiv : iv.length < 2 ^ 32) (hcek : ∀ c, cek = some c → c.length < 2 ^ 32) :
    readInfo (encryptionInfo iv cek keyId kwAlg)
      = some { protectedBytes := protectedHeader, iv := iv, keyId := keyId, kwAlg := kwAlg, cek := cek } := by
  have hi : (cekItem cek).wf = true ∧ (enc (cekItem cek)).length < 2 ^ 33 := by
    cases cek with
    | none => decide
    | some c =>
      have := hcek c rfl
      have := head_length 2 c.length
      simp only [cekItem, Cbor.wf, enc, List.length_append, decide_eq_true_eq]
      omega
  obtain ⟨hwf, hlen⟩ := info_wf iv (cekItem cek) keyId kwAlg hkw hiv hi.1 hi.2
  show readInfo (enc (.bstr (enc (.tag 96 (.arr [_, _, _, .arr [.arr [_, _, cekItem cek]]]))))) = _
  unfold readInfo
  rw [decodeStrict_enc _ (by simpa [Cbor.wf] using hlen)]
  simp only
  rw [decodeStrict_enc _ hwf]
  simp only [Cbor.null, Cbor.toInt_ofInt, decodeStrict_enc _ (Cbor.ofInt_wf keyId hk), Option.bind]
  cases cek <;> rfl

theorem generate_eq (asset : Bytes) (cek : Option Bytes) (keyId kwAlg : Int) :
    generate asset cek keyId kwAlg
      = { encryptedContent := asset.drop 12, encryptionInfo := encryptionInfo (asset.take 12) cek keyId kwAlg } := by
  simp only [generate, splitAsset]
  rw [← List.drop_drop (i := 16) (j := 12), List.take_append_drop]

/-- for every AAD constant, so that the induction over a history of calls (`C14.run_ivs`) need not carry the extracted literal -/
theorem readInfo_encryptAndGenerate (c : Consts) (gcm : GcmEnc) (key nonce fw : Bytes) (keyId : Int)
    (hn : nonce.length = 12) (hk : -(2 ^ 64 : Int) ≤ keyId ∧ keyId < 2 ^ 64) :
    readInfo (encryptAndGenerate c gcm key nonce fw keyId).encryptionInfo
      = some { protectedBytes := protectedHeader, iv := nonce, keyId := keyId, kwAlg := -6, cek := none } := by
  simp only [encryptAndGenerate, generate_eq]
  rw [List.append_assoc, List.take_left' hn]
  exact C06_info_shape nonce none keyId (-6) hk (by decide) (by omega) (by intro c h; cases h)

theorem decrypts (c : Consts) (hc : c.aadLiteral = encStructure protectedHeader) (gcm : GcmEnc)
    (gcmDec : Bytes → Bytes → Bytes → Bytes × Bytes → Option Bytes)
    (hgcm : ∀ k n a p, gcmDec k n a (gcm k n a p) = some p) (htag : ∀ k n a p, (gcm k n a p).2.length = 16)
    (key nonce firmware : Bytes) (keyId : Int) (hn : nonce.length = 12) :
    let a := encryptAndGenerate c gcm key nonce firmware keyId
    gcmDec key nonce (encStructure protectedHeader) (a.encryptedContent.drop 16, a.encryptedContent.take 16)
      = some firmware := by
  have ht := htag key nonce c.aadLiteral firmware
  simp only [encryptAndGenerate, generate_eq]
  rw [List.append_assoc, List.drop_left' hn, List.drop_left' ht, List.take_left' ht, ← hc]
  exact hgcm key nonce c.aadLiteral firmware

/-- **Decrypts to the firmware.** Under the AES-GCM hypothesis (`gcmDec` inverts `gcm` for the same key, nonce and
associated data), decrypting what a consumer reads out of the published artifacts - the IV from the encryption info,
the Enc_structure of the *published* protected header as associated data, `encrypted_content.bin` split at 16 bytes
into tag and ciphertext - yields exactly the firmware. For every key, nonce, firmware, key id, tag length 16. -/
theorem C06_decrypts (gcm : GcmEnc) (gcmDec : Bytes → Bytes → Bytes → Bytes × Bytes → Option Bytes)
    (hgcm : ∀ k n a p, gcmDec k n a (gcm k n a p) = some p)
    (htag : ∀ k n a p, (gcm k n a p).2.length = 16)
    (key nonce firmware : Bytes) (keyId : Int) (hn : nonce.length = 12)
    (hk : -(2 ^ 64 : Int) ≤ keyId ∧ keyId < 2 ^ 64) :
    let a := encryptAndGenerate ⟨Generated.aadLiteral⟩ gcm key nonce firmware keyId
    ∃ v, readInfo a.encryptionInfo = some v ∧ v.iv = nonce ∧ v.keyId = keyId ∧ v.kwAlg = -6
      ∧ gcmDec key v.iv (encStructure v.protectedBytes) (a.encryptedContent.drop 16, a.encryptedContent.take 16)
          = some firmware :=
  ⟨_, readInfo_encryptAndGenerate _ gcm key nonce firmware keyId hn hk, rfl, rfl, rfl,
    decrypts ⟨Generated.aadLiteral⟩ C06_aad gcm gcmDec hgcm htag key nonce firmware keyId hn⟩

/-- **create accepts the encryption info unchanged**: given as `{raw: <hex>}` (or a file with these bytes), the
encryption-info parameter holds the inner byte string, whose `to_cbor()` is the info again -/
theorem C06_create_accepts (cx : Encode.Ctx) (info inner : Bytes) (h : info = enc (.bstr inner))
    (hl : inner.length < 2 ^ 64) :
    Py.deser info = .ok (.bstr inner) ∧ (Node.leaf (.bstr inner) .hex).toBytes = info := by
  subst h
  exact ⟨RoundTrip.deser_enc (.bstr inner) (by simpa [Cbor.wf] using hl) rfl, rfl⟩

end SuitVerif.Props.C06
