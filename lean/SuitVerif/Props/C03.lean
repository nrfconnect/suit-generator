import SuitVerif.Encode
import SuitVerif.ReadsKv
import SuitVerif.Generated.Schema
import SuitVerif.Generated.Guards
/-! # C03 — parse then create reproduces the envelope (partial)

Proved here: the full statement is false on the extracted schema (finding F4, kernel-checked witness); the decoder reads back
what the encoder wrote for the scalar kinds that deserialize or check their bytes (`C03_uint` … `C03_bchar`; `hex`, `rawBstr` and
`emptyBstr` take the bytes as they are); and, assembled from the inductive steps of `ReadsBack.lean` / `ReadsKv.lean` along a
path found in the extracted schema (`C03_envelope_chain`), for whole structures up to the smallest envelope
(`C03_minimal_envelope_current`); and for the scalar leaves the description half, `from_obj(to_obj(n)) = n` (`C03_recreate_*`).
`Reads g s c b n` says that the decoder of class `c` builds `n` from `b` for every sufficient
recursion budget; that `Decode.budget` is sufficient is not proved.  Not a theorem: the induction that applies the steps at every
node of the whole language; the property is decided on every generated envelope by the correspondence on `parse` and by byte
comparison of the re-created envelope (harness/props/c03.py). -/
namespace SuitVerif.Props.C03
open SuitVerif SuitVerif.Py SuitVerif.Decode SuitVerif.Encode

/-- a context with no files and a constant hash (the statement below does not depend on them) -/
def cx0 : Ctx :=
  { schema := Generated.schema, guards := Generated.guards, fs := fun _ => none, hashFn := fun _ _ => [0],
    sha1 := fun b => b, jsonLoads := fun _ => none }

def envelopeWith (content : String) : Obj :=
  .dict [("SUIT_Envelope_Tagged", .dict [
    ("suit-authentication-wrapper", .dict [("SuitDigest", .dict [("suit-digest-algorithm-id", .str "cose-alg-sha-256")])]),
    ("suit-manifest", .dict [("suit-manifest-version", .int 1), ("suit-manifest-sequence-number", .int 0),
      ("suit-validate", .list [.dict [("suit-directive-override-parameters",
          .dict [("suit-parameter-content", .str content)])]])])])]

def roundTripEqual (o : Obj) : Option Bool :=
  match createTop cx0 o with
  | .ok b => match parse cx0.guards cx0.schema b with
    | .ok o' => match createTop cx0 o' with
      | .ok b' => some (b == b')
      | .error _ => none
    | .error _ => none
  | .error _ => none

/-- **The full statement fails** (finding F4): the raw content `h'0506'` is parsed as the integer 5 (cbor2 ignores
the trailing byte) and re-created as `h'05'`. Checked by the kernel on the schema extracted from the running code. -/
theorem C03_full_fails : roundTripEqual (envelopeWith "0506") = some false := by decide +kernel

/-- non-vacuity / the unambiguous neighbour: content that does not decode as an integer round-trips -/
theorem C03_unambiguous_example : roundTripEqual (envelopeWith "ff0506") = some true := by decide +kernel

/-! ### scalar kinds: `from_cbor(to_cbor(x))` gives back the same object -/

open SuitVerif.RoundTrip

theorem C03_uint (g : Guards) (n : Nat) (h : n < 2 ^ 64) :
    leafFrom g .uint (enc (.uint n)) = some (.ok (.leaf (.uint n) .plain)) := by
  have hw : (Cbor.uint n).wf = true := by simpa [Cbor.wf] using h
  simp [leafFrom, deser_enc _ hw rfl, isNone, intLike, bind, Except.bind, pure, Except.pure]

/-- a byte-string leaf: the child receives the content and keeps it verbatim -/
theorem C03_bstr (g : Guards) (b : Bytes) : leafFrom g .bstr (ensure (.bstr b)) = some (.ok (.leaf (.bstr b) .hex)) := by
  simp [leafFrom, ensure]

theorem C03_uuid (g : Guards) (b : Bytes) (h : b.length = 16) :
    leafFrom g .uuid (ensure (.bstr b)) = some (.ok (.leaf (.bstr b) .rawHex)) := by
  simp [leafFrom, ensure, h]

/-- `deserialize_cbor(cbor2.dumps(v)) = v` for every value of the modelled data model that cbor2 hands over unchanged (valid UTF-8, no repeated keys) -/
theorem C03_deser_enc (v : Cbor) (hw : v.wf = true) (hn : norm v = some v) : deser (enc v) = .ok v := deser_enc v hw hn

/-- `validate_cbor` never rejects what the encoder wrote -/
theorem C03_validate_enc (v : Cbor) (hw : v.wf = true) : validate (enc v) = true := validate_enc v hw

theorem isNone_ofInt (z : Int) : isNone (Cbor.ofInt z) = false := by
  unfold Cbor.ofInt; split <;> rfl

/-- a signed-integer leaf (both major types, every head width) -/
theorem C03_int (g : Guards) (z : Int) (h : -(2 ^ 64 : Int) ≤ z ∧ z < 2 ^ 64) :
    leafFrom g .int (enc (Cbor.ofInt z)) = some (.ok (.leaf (Cbor.ofInt z) .plain)) := by
  simp [leafFrom, deser_enc_ofInt z h, intLike_ofInt, bind, Except.bind, pure, Except.pure]

theorem C03_imageSize (g : Guards) (n : Nat) (h : n < 2 ^ 64) :
    leafFrom g .imageSize (enc (.uint n)) = some (.ok (.leaf (.uint n) .rawInt)) := by
  have hw : (Cbor.uint n).wf = true := by simpa [Cbor.wf] using h
  simp [leafFrom, deser_enc _ hw rfl, isNone, intLike, bind, Except.bind, pure, Except.pure]

/-- a text leaf: every valid UTF-8 string -/
theorem C03_tstr (g : Guards) (b : Bytes) (hl : b.length < 2 ^ 64) (hu : (strOf b).isSome = true) :
    leafFrom g .tstr (enc (.tstr b)) = some (.ok (.leaf (.tstr b) .plain)) := by
  have hw : (Cbor.tstr b).wf = true := by simpa [Cbor.wf] using hl
  simp [leafFrom, deser_enc _ hw (by simp [norm, hu]), bind, Except.bind, pure, Except.pure]

theorem C03_bool (g : Guards) (v : Bool) :
    leafFrom g .bool (enc (Cbor.bool v)) = some (.ok (.leaf (Cbor.bool v) .plain)) := by
  have hd : deser (enc (Cbor.bool v)) = .ok (Cbor.bool v) := by cases v <;> exact deser_enc _ rfl rfl
  have hb : isBool (Cbor.bool v) = true := by cases v <;> rfl
  simp [leafFrom, hd, hb, bind, Except.bind, pure, Except.pure]

theorem C03_null (g : Guards) : leafFrom g .null (enc Cbor.null) = some (.ok (.leaf Cbor.null .plain)) := by
  have hd : deser (enc (Cbor.simple 22)) = .ok (.simple 22) := deser_enc _ rfl rfl
  simp [leafFrom, Cbor.null, hd, isNone, bind, Except.bind, pure, Except.pure]

/-- an enumeration leaf: in a table without repeated codes every entry's code is read back as that entry's name -/
theorem C03_enum (g : Guards) (es : List (String × Int)) (e : String × Int)
    (hf : es.find? (fun x => x.2 == e.2) = some e) (h : -(2 ^ 64 : Int) ≤ e.2 ∧ e.2 < 2 ^ 64) :
    leafFrom g (.enum es) (enc (Cbor.ofInt e.2)) = some (.ok (.enumv e.1 e.2)) := by
  simp [leafFrom, deser_enc_ofInt e.2 h, intLike_ofInt, hf, bind, Except.bind, pure, Except.pure]

/-- the premise of `C03_enum` for every entry of every enumeration of `s` -/
def enumTablesOk (s : Schema) : Bool :=
  s.classes.all (fun c => match c.2 with
    | .enum es => es.all (fun e => (es.find? (fun x => x.2 == e.2) == some e) && decide (-(2 ^ 64 : Int) ≤ e.2 ∧ e.2 < 2 ^ 64))
    | _ => true)

theorem enumTablesOk_spec {s : Schema} (hs : enumTablesOk s = true) {c : Cls} {es : List (String × Int)}
    (hc : s.ty c = some (.enum es)) {e : String × Int} (he : e ∈ es) :
    es.find? (fun x => x.2 == e.2) = some e ∧ -(2 ^ 64 : Int) ≤ e.2 ∧ e.2 < 2 ^ 64 := by
  obtain ⟨p, hp, hty⟩ := Option.map_eq_some_iff.mp hc
  have := List.all_eq_true.mp hs p (List.mem_of_getElem? hp)
  rw [hty] at this
  simpa using List.all_eq_true.mp this e he

theorem C03_enum_tables : enumTablesOk Generated.schema = true := by decide +kernel

/-- a one-letter component part -/
theorem C03_bchar (g : Guards) (b : Bytes) (s : String) (hl : b.length = 1) (hs : strOf b = some s)
    (ha : s.toList.all Char.isAlpha = true) : leafFrom g .bchar b = some (.ok (.bchar s)) := by
  simp [leafFrom, hl, hs, ha]

/-- one step of the decoder at a byte-string-wrapped class: the child decodes the content -/
theorem C03_cbstr_step (g : Guards) (s : Schema) (fuel : Nat) (c inner : Cls) (b : Bytes) (hty : s.ty c = some (.cbstr inner)) :
    fromBytes g s (fuel + 1) c b = (fromBytes g s fuel inner b).map .wrapped :=
  ReadsBack.fromBytes_cbstr hty fuel b

/-- one step of the decoder at a tagged class: the registered tag is required and the child decodes the tagged item -/
theorem C03_tag_step (g : Guards) (s : Schema) (fuel : Nat) (c child : Cls) (t : Nat) (name : String) (v : Cbor)
    (hty : s.ty c = some (.tag t name child)) (hw : (Cbor.tag t v).wf = true) (hn : norm v = some v) :
    fromBytes g s (fuel + 1) c (enc (.tag t v)) = (fromBytes g s fuel child (enc v)).map (.tagged t name) :=
  ReadsBack.fromBytes_tag hty hw hn fuel

/-! ### assembled from the steps of `ReadsBack.lean`: a whole digest, for every algorithm and every value

Each `…_reads` lemma is stated for any schema in which the classes involved have a certain shape (`DigestClass`, `SeveredClass`,
`AuthWrapperClass`, `ManifestClass`, `EnvelopeClass`); `C03_envelope_chain` finds classes of these shapes in the schema extracted
from the running code, starting from `schema.envelope`, and the `…_current` theorems put the two together. -/
open SuitVerif.ReadsBack

/-- `cu` is a digest: a union whose first alternative `ct` is the positional pair of an algorithm (`k1`, an enumeration with
the entries `es`) and the hash bytes shown as hex (`k2`) -/
abbrev DigestClass (s : Schema) (cu ct : Cls) (k1 k2 : String) (es : List (String × Int)) : Prop :=
  ∃ ca cb post, s.ty cu = some (.union (ct :: post)) ∧ s.ty ct = some (.tupleNamed [(k1, ca), (k2, cb)]) ∧
    s.ty ca = some (.enum es) ∧ s.ty cb = some .hex ∧ k1.endsWith "*" = false ∧ k2.endsWith "*" = false

theorem digest_wf {s : Schema} (hs : enumTablesOk s = true) {cu ct : Cls} {k1 k2 : String} {es : List (String × Int)}
    (d : DigestClass s cu ct k1 k2 es)
    {e : String × Int} (he : e ∈ es) {b : Bytes} (hb : b.length < 2 ^ 64) : (Cbor.arr [Cbor.ofInt e.2, .bstr b]).wf = true := by
  obtain ⟨_, _, _, _, _, h4, _⟩ := d
  simp [Cbor.wf, wfList, Cbor.ofInt_wf e.2 (enumTablesOk_spec hs h4 he).2, hb]

theorem digest_toBytes (i : Nat) (nm k1 k2 : String) (e : String × Int) (b : Bytes) :
    (Node.alt i nm (.tuple [k1, k2] [.enumv e.1 e.2, .leaf (.bstr b) .hex])).toBytes = enc (.arr [Cbor.ofInt e.2, .bstr b]) := by
  simp [Node.toBytes, valList, Node.toVal]

/-- the digest union itself (not byte-string-wrapped), as it stands in the manifest for a severed member -/
theorem C03_digest_union_reads (g : Guards) {s : Schema} (hs : enumTablesOk s = true) {cu ct : Cls} {k1 k2 : String}
    {es : List (String × Int)} (d : DigestClass s cu ct k1 k2 es) {e : String × Int} (he : e ∈ es) {b : Bytes} (hb : b.length < 2 ^ 64) :
    Reads g s cu (enc (.arr [Cbor.ofInt e.2, .bstr b]))
      (.alt 0 (s.name ct) (.tuple [k1, k2] [.enumv e.1 e.2, .leaf (.bstr b) .hex])) := by
  have hw := digest_wf hs d he hb
  obtain ⟨ca, cb, post, h2, h3, h4, h5, hk1, hk2⟩ := d
  obtain ⟨hf, hr⟩ := enumTablesOk_spec hs h4 he
  have hfields : Fields g s [(k1, ca), (k2, cb)] [.enumv e.1 e.2, .leaf (.bstr b) .hex] :=
    .cons hk1 (by rw [Node.toVal, ensure_ofInt]; exact reads_leaf h4 (C03_enum g es e hf hr))
      (.cons hk2 (reads_leaf h5 rfl) .nil)
  exact reads_union [] ct post _ _ h2 (by simp)
    (reads_tuple _ [.enumv e.1 e.2, .leaf (.bstr b) .hex] h3 hw (by simp [valList, Node.toVal, norm, normList, norm_ofInt]) hfields)

theorem C03_digest_reads (g : Guards) {s : Schema} (hs : enumTablesOk s = true) {c cu ct : Cls} {k1 k2 : String}
    {es : List (String × Int)} (h1 : s.ty c = some (.cbstr cu)) (d : DigestClass s cu ct k1 k2 es) {e : String × Int} (he : e ∈ es) {b : Bytes}
    (hb : b.length < 2 ^ 64) :
    Reads g s c (enc (.arr [Cbor.ofInt e.2, .bstr b]))
      (.wrapped (.alt 0 (s.name ct) (.tuple [k1, k2] [.enumv e.1 e.2, .leaf (.bstr b) .hex]))) :=
  reads_wrapped h1 (C03_digest_union_reads g hs d he hb)

/-- `cSev` is a severable member of the manifest: a union of a byte-string-wrapped command sequence (a list of `[code, argument]`
pairs, conditions `esC` or directives `esD`) and the digest union `cu`; no condition and no directive has the code of an algorithm of `es` -/
abbrev SeveredClass (s : Schema) (cSev cu : Cls) (es : List (String × Int)) : Prop :=
  ∃ cSeq cL cCmd cCond cDir esC esD, s.ty cSev = some (.union [cSeq, cu]) ∧
    s.ty cSeq = some (.cbstr cL) ∧ s.ty cL = some (.list cCmd (some 2)) ∧ s.ty cCmd = some (.union [cCond, cDir]) ∧
    s.ty cCond = some (.keyValueTuple esC) ∧ s.ty cDir = some (.keyValueTuple esD) ∧
    ∀ e ∈ es, lookupId esC (Cbor.ofInt e.2) = none ∧ lookupId esD (Cbor.ofInt e.2) = none

/-- a severable member given by digest: the union tries the command sequence first, which rejects the digest's bytes because no
condition and no directive carries the code of a hash algorithm; the digest alternative then reads them exactly -/
theorem C03_severed_digest_reads (g : Guards) {s : Schema} (hs : enumTablesOk s = true) {cSev cu ct : Cls} {k1 k2 : String}
    {es : List (String × Int)} (v : SeveredClass s cSev cu es) (d : DigestClass s cu ct k1 k2 es) {e : String × Int} (he : e ∈ es) {b : Bytes}
    (hb : b.length < 2 ^ 64) :
    Reads g s cSev (enc (.arr [Cbor.ofInt e.2, .bstr b]))
      (.alt 1 (s.name cu) (.alt 0 (s.name ct) (.tuple [k1, k2] [.enumv e.1 e.2, .leaf (.bstr b) .hex]))) := by
  obtain ⟨cSeq, cL, cCmd, cCond, cDir, esC, esD, hS, g1, g2, g3, g4, g5, hno⟩ := v
  have hrej := digest_rejected_as_sequence (g := g) cSeq cL cCmd cCond cDir esC esD e.2 b g1 g2 g3 g4 g5 (hno e he).1 (hno e he).2
    (digest_wf hs d he hb) (norm_ofInt e.2)
  exact reads_union [cSeq] cu [] _ _ hS (by simpa using hrej) (C03_digest_union_reads g hs d he hb)

/-! ### the authentication wrapper of an unsigned envelope: `bstr [ bstr [alg, digest] ]` -/

/-- `cAw` is the authentication wrapper: a byte-string-wrapped tuple of the byte-string-wrapped digest `c` (over the union `cu`) and a
repeating member `kstar` (the signature blocks) -/
abbrev AuthWrapperClass (s : Schema) (cAw c cu : Cls) (kstar : String) : Prop :=
  ∃ cAuth cstar, s.ty cAw = some (.cbstr cAuth) ∧ s.ty cAuth = some (.tupleNamed [("SuitDigest", c), (kstar, cstar)]) ∧
    kstar.endsWith "*" = true ∧ s.ty c = some (.cbstr cu)

theorem C03_auth_wrapper_reads (g : Guards) {s : Schema} (hs : enumTablesOk s = true) {cAw c cu ct : Cls}
    {kstar k1 k2 : String} {es : List (String × Int)} (a : AuthWrapperClass s cAw c cu kstar) (d : DigestClass s cu ct k1 k2 es) {e : String × Int} (he : e ∈ es) {b : Bytes}
    (hb : b.length < 2 ^ 64) (hlen : (enc (.arr [Cbor.ofInt e.2, .bstr b])).length < 2 ^ 64) :
    Reads g s cAw (enc (.arr [.bstr (enc (.arr [Cbor.ofInt e.2, .bstr b]))]))
      (.wrapped (.tuple ["SuitDigest", kstar]
        [.wrapped (.alt 0 (s.name ct) (.tuple [k1, k2] [.enumv e.1 e.2, .leaf (.bstr b) .hex]))])) := by
  obtain ⟨cAuth, cstar, h0, hA, hks, h1⟩ := a
  have ht := reads_tuple_star (g := g) [("SuitDigest", c)]
    [.wrapped (.alt 0 (s.name ct) (.tuple [k1, k2] [.enumv e.1 e.2, .leaf (.bstr b) .hex]))] kstar cstar hA hks
  simp only [valList, Node.toVal, digest_toBytes] at ht
  exact reads_wrapped h0 (ht (by simp [Cbor.wf, wfList, hlen]) (by simp [norm, normList])
    (.cons (by decide +kernel) (by rw [ensure_wrapped, digest_toBytes]; exact C03_digest_reads g hs h1 d he hb) .nil))

/-! ### a key/value map: the head of every manifest (version and sequence number), for all values -/

/-- `cM` is the manifest: a byte-string-wrapped key/value map with the entries `esM`, among them `e1` and `e2`, two different
unsigned-integer members with ids of 64 bits -/
abbrev ManifestClass (s : Schema) (cM : Cls) (esM : List Entry) (e1 e2 : Entry) : Prop :=
  ∃ cMk embM, s.ty cM = some (.cbstr cMk) ∧ s.ty cMk = some (.keyValue esM embM) ∧
    esM.find? (fun e => e.id == e1.id) = some e1 ∧ esM.find? (fun e => e.id == e2.id) = some e2 ∧ e1.id ≠ e2.id ∧
    (-(2 ^ 64 : Int) ≤ e1.id ∧ e1.id < 2 ^ 64) ∧ (-(2 ^ 64 : Int) ≤ e2.id ∧ e2.id < 2 ^ 64) ∧
    s.ty e1.cls = some .uint ∧ s.ty e2.cls = some .uint

theorem C03_manifest_head_reads (g : Guards) {s : Schema} {cM : Cls} {esM : List Entry} {e1 e2 : Entry}
    (m : ManifestClass s cM esM e1 e2) {v q : Nat} (hv : v < 2 ^ 64) (hq : q < 2 ^ 64) :
    Reads g s cM (enc (.map [(Cbor.ofInt e1.id, .uint v), (Cbor.ofInt e2.id, .uint q)]))
      (.wrapped (.kv [(entryKey e1, .leaf (.uint v) .plain), (entryKey e2, .leaf (.uint q) .plain)])) := by
  obtain ⟨cMk, embM, hM, hMk, hf1, hf2, hne, hr1, hr2, ht1, ht2⟩ := m
  refine reads_wrapped hM (reads_kv esM embM [(e1, .leaf (.uint v) .plain), (e2, .leaf (.uint q) .plain)] hMk ?_ (by simp [hne])
    (by simp [Node.toVal, norm]) ?_)
  · simp [kvsOf, Node.toVal, Cbor.wf, wfPairs, Cbor.ofInt_wf _ hr1, Cbor.ofInt_wf _ hr2, hv, hq]
  · simpa [hf1, hf2] using ⟨reads_leaf ht1 (C03_uint g v hv), reads_leaf ht2 (C03_uint g q hq)⟩

/-! ### assembled: the smallest envelope there is, for all its values

`tag 107 { 2: bstr [ bstr [alg, digest] ], 3: bstr { 1: version, 2: sequence number } }` -/

/-- `cEnv` is the envelope: tag `t` over a key/value map with the entries `esEnv`, among them `eA` and `eM`, two different members
that are not merged into the map -/
abbrev EnvelopeClass (s : Schema) (cEnv : Cls) (t : Nat) (nm : String) (esEnv : List Entry) (eA eM : Entry) : Prop :=
  ∃ cKv emb, s.ty cEnv = some (.tag t nm cKv) ∧ s.ty cKv = some (.keyValue esEnv emb) ∧ t < 2 ^ 64 ∧
    esEnv.find? (fun e => e.id == eA.id) = some eA ∧ esEnv.find? (fun e => e.id == eM.id) = some eM ∧ eA.id ≠ eM.id ∧
    (-(2 ^ 64 : Int) ≤ eA.id ∧ eA.id < 2 ^ 64) ∧ (-(2 ^ 64 : Int) ≤ eM.id ∧ eM.id < 2 ^ 64) ∧
    eA.merge = false ∧ eM.merge = false

theorem C03_minimal_envelope_reads (g : Guards) {s : Schema} {cEnv : Cls} {t : Nat} {nm : String} {esEnv : List Entry}
    {eA eM : Entry} (v : EnvelopeClass s cEnv t nm esEnv eA eM) {aw mf : Node}
    (hwA : aw.toVal.wf = true) (hwM : mf.toVal.wf = true)
    (hnA : norm aw.toVal = some aw.toVal) (hnM : norm mf.toVal = some mf.toVal)
    (hA : Reads g s eA.cls (ensure aw.toVal) aw) (hM : Reads g s eM.cls (ensure mf.toVal) mf) :
    Reads g s cEnv (enc (.tag t (.map [(Cbor.ofInt eA.id, aw.toVal), (Cbor.ofInt eM.id, mf.toVal)])))
      (.tagged t nm (.kv [(entryKey eA, aw), (entryKey eM, mf)])) ∧
    (Node.tagged t nm (.kv [(entryKey eA, aw), (entryKey eM, mf)])).toBytes
      = enc (.tag t (.map [(Cbor.ofInt eA.id, aw.toVal), (Cbor.ofInt eM.id, mf.toVal)])) := by
  obtain ⟨cKv, emb, hE, hKv, ht, hfA, hfM, hne, hrA, hrM, hmA, hmM⟩ := v
  have hnd : ([(eA, aw), (eM, mf)].map (·.1.id)).Nodup := by simp [hne]
  have hn : ∀ p ∈ [(eA, aw), (eM, mf)], norm p.2.toVal = some p.2.toVal := by simp [hnA, hnM]
  have hwmap : (Cbor.map [(Cbor.ofInt eA.id, aw.toVal), (Cbor.ofInt eM.id, mf.toVal)]).wf = true := by
    simp [Cbor.wf, wfPairs, Cbor.ofInt_wf _ hrA, Cbor.ofInt_wf _ hrM, hwA, hwM]
  have hval : (Node.kv [(entryKey eA, aw), (entryKey eM, mf)]).toVal = .map (kvsOf [(eA, aw), (eM, mf)]) :=
    congrArg Cbor.map (kvPairs_nodesOf [(eA, aw), (eM, mf)] [] (by simp [hmA, hmM]) (by simpa using hnd))
  refine ⟨reads_tagged hE (by rw [Cbor.wf, hwmap]; simp [ht]) (norm_map_kvsOf _ hn hnd)
    (reads_kv esEnv emb [(eA, aw), (eM, mf)] hKv hwmap hnd hn (by simp [hfA, hfM, hA, hM])), ?_⟩
  rw [tagged_toBytes, hval]
  rfl

/-- Everything the assembled statements need from a schema, along one path from `s.envelope`: the envelope with its members 2
and 3, the authentication wrapper with its digest, the manifest with its members 1 and 2, and the manifest's `suit-install` as a
severable member with the same digest.  The classes and entries are fields, so that `C03_envelope_chain` finds them in the
extracted schema by unification (class numbers are never written down, and a renumbering does not disturb it). -/
structure EnvelopePath (s : Schema) where
  {nm : String} {esEnv : List Entry} {eA eM : Entry} {c cu ct : Cls} {kstar k1 k2 : String} {es : List (String × Int)}
  {esM : List Entry} {e1 e2 eI : Entry}
  envelope : EnvelopeClass s s.envelope 107 nm esEnv eA eM
  authName : esEnv.find? (fun e => e.name == "suit-authentication-wrapper") = some eA
  manifestName : esEnv.find? (fun e => e.name == "suit-manifest") = some eM
  authId : eA.id = 2
  manifestId : eM.id = 3
  auth : AuthWrapperClass s eA.cls c cu kstar
  digest : DigestClass s cu ct k1 k2 es
  algs : 0 < es.length
  manifest : ManifestClass s eM.cls esM e1 e2
  versionName : esM.find? (fun e => e.name == "suit-manifest-version") = some e1
  sequenceName : esM.find? (fun e => e.name == "suit-manifest-sequence-number") = some e2
  head : e1.id = 1 ∧ e2.id = 2 ∧ e1.merge = false ∧ e2.merge = false
  installName : esM.find? (fun e => e.name == "suit-install") = some eI
  severed : SeveredClass s eI.cls cu es

/-- the path exists in the schema extracted from the running code (the `rfl`s follow the path and fix the classes; what is left is
evaluated by the kernel) -/
theorem C03_envelope_chain : Nonempty (EnvelopePath Generated.schema) := by
  refine ⟨⟨⟨_, _, rfl, rfl, ?_⟩, rfl, rfl, ?_, ?_, ⟨_, _, rfl, rfl, ?_, rfl⟩,
    ⟨_, _, _, rfl, rfl, rfl, rfl, ?_, ?_⟩, ?_, ⟨_, _, rfl, rfl, ?_⟩, rfl, rfl, ?_, rfl,
    ⟨_, _, _, _, _, _, _, rfl, rfl, rfl, rfl, rfl, rfl, ?_⟩⟩⟩ <;> decide +kernel

theorem C03_severed_chain :
    ∃ (cSev cu ct : Cls) (k1 k2 : String) (es : List (String × Int)),
      SeveredClass Generated.schema cSev cu es ∧ DigestClass Generated.schema cu ct k1 k2 es ∧ 0 < es.length :=
  let ⟨p⟩ := C03_envelope_chain
  ⟨_, _, _, _, _, _, p.severed, p.digest, p.algs⟩

theorem C03_auth_chain :
    ∃ (cAw c cu ct : Cls) (kstar k1 k2 : String) (es : List (String × Int)),
      AuthWrapperClass Generated.schema cAw c cu kstar ∧ DigestClass Generated.schema cu ct k1 k2 es ∧ 0 < es.length :=
  let ⟨p⟩ := C03_envelope_chain
  ⟨_, _, _, _, _, _, _, _, p.auth, p.digest, p.algs⟩

theorem C03_digest_chain :
    ∃ (c cu ct : Cls) (k1 k2 : String) (es : List (String × Int)),
      Generated.schema.ty c = some (.cbstr cu) ∧ DigestClass Generated.schema cu ct k1 k2 es ∧ 0 < es.length :=
  let ⟨p⟩ := C03_envelope_chain
  let ⟨_, _, _, _, _, h1⟩ := p.auth
  ⟨_, _, _, _, _, _, h1, p.digest, p.algs⟩

theorem C03_manifest_chain :
    ∃ (cM : Cls) (esM : List Entry) (e1 e2 : Entry), ManifestClass Generated.schema cM esM e1 e2 ∧
      esM.find? (fun e => e.name == "suit-manifest-version") = some e1 ∧
      esM.find? (fun e => e.name == "suit-manifest-sequence-number") = some e2 :=
  let ⟨p⟩ := C03_envelope_chain
  ⟨_, _, _, _, p.manifest, p.versionName, p.sequenceName⟩

/-- **On the current tree:** the digest of the authentication wrapper - each algorithm of the extracted table,
any value - is read back by the decoder (given enough budget) as exactly the node `create` built, hence rendered with the same
name and the same hex text.  (The table is not empty.) -/
theorem C03_digest_current :
    ∃ (c ct : Cls) (k1 k2 : String) (es : List (String × Int)), 0 < es.length ∧
      ∀ e ∈ es, ∀ (b : Bytes), b.length < 2 ^ 64 →
        Reads Generated.guards Generated.schema c (enc (.arr [Cbor.ofInt e.2, .bstr b]))
          (.wrapped (.alt 0 (Generated.schema.name ct) (.tuple [k1, k2] [.enumv e.1 e.2, .leaf (.bstr b) .hex]))) := by
  obtain ⟨c, cu, ct, k1, k2, es, h1, d, hlen⟩ := C03_digest_chain
  exact ⟨c, ct, k1, k2, es, hlen, fun e he b hb => C03_digest_reads _ C03_enum_tables h1 d he hb⟩

/-- **On the current tree:** the authentication wrapper of every unsigned envelope - each algorithm of the table, any digest
value - is read back as exactly the node `create` built (digest wrapped twice, no signature block) -/
theorem C03_auth_wrapper_current :
    ∃ (cAw ct : Cls) (kstar k1 k2 : String) (es : List (String × Int)), 0 < es.length ∧
      ∀ e ∈ es, ∀ (b : Bytes), b.length < 2 ^ 64 → (enc (.arr [Cbor.ofInt e.2, .bstr b])).length < 2 ^ 64 →
        Reads Generated.guards Generated.schema cAw (enc (.arr [.bstr (enc (.arr [Cbor.ofInt e.2, .bstr b]))]))
          (.wrapped (.tuple ["SuitDigest", kstar]
            [.wrapped (.alt 0 (Generated.schema.name ct) (.tuple [k1, k2] [.enumv e.1 e.2, .leaf (.bstr b) .hex]))])) := by
  obtain ⟨cAw, c, cu, ct, kstar, k1, k2, es, a, d, hlen⟩ := C03_auth_chain
  exact ⟨cAw, ct, kstar, k1, k2, es, hlen, fun e he b hb hl => C03_auth_wrapper_reads _ C03_enum_tables a d he hb hl⟩

/-- **On the current tree:** a manifest consisting of its version and any sequence number below 2^64 is read back by the
manifest class (byte-string-wrapped key/value map) as exactly the node `create` built -/
theorem C03_manifest_head_current :
    ∃ (cM : Cls) (e1 e2 : Entry), e1.name = "suit-manifest-version" ∧ e2.name = "suit-manifest-sequence-number" ∧
      ∀ (v q : Nat), v < 2 ^ 64 → q < 2 ^ 64 →
        Reads Generated.guards Generated.schema cM (enc (.map [(Cbor.ofInt e1.id, .uint v), (Cbor.ofInt e2.id, .uint q)]))
          (.wrapped (.kv [(entryKey e1, .leaf (.uint v) .plain), (entryKey e2, .leaf (.uint q) .plain)])) := by
  obtain ⟨cM, esM, e1, e2, m, hn1, hn2⟩ := C03_manifest_chain
  exact ⟨cM, e1, e2, by simpa using List.find?_some hn1, by simpa using List.find?_some hn2,
    fun v q hv hq => C03_manifest_head_reads _ m hv hq⟩

/-- **On the current tree:** the digest standing for a severed `suit-install` - any algorithm of the table, any value - is read
back exactly: the command-sequence alternative, tried first, provably rejects it -/
theorem C03_severed_digest_current :
    ∃ (cSev cu ct : Cls) (k1 k2 : String) (es : List (String × Int)), 0 < es.length ∧
      ∀ e ∈ es, ∀ (b : Bytes), b.length < 2 ^ 64 →
        Reads Generated.guards Generated.schema cSev (enc (.arr [Cbor.ofInt e.2, .bstr b]))
          (.alt 1 (Generated.schema.name cu)
            (.alt 0 (Generated.schema.name ct) (.tuple [k1, k2] [.enumv e.1 e.2, .leaf (.bstr b) .hex]))) := by
  obtain ⟨cSev, cu, ct, k1, k2, es, v, d, hlen⟩ := C03_severed_chain
  exact ⟨cSev, cu, ct, k1, k2, es, hlen, fun e he b hb => C03_severed_digest_reads _ C03_enum_tables v d he hb⟩

/-- **On the current tree: the smallest envelope, for all its values.**  Whatever the digest algorithm (of the extracted
table), the digest value, the manifest version and the sequence number: the decoder (given enough budget) builds from the envelope
`create` wrote a node whose own encoding is that very envelope - nothing is dropped, truncated or re-interpreted. -/
theorem C03_minimal_envelope_current :
    ∃ (es : List (String × Int)), 0 < es.length ∧
      ∀ e ∈ es, ∀ (b : Bytes) (v q : Nat), b.length < 2 ^ 64 → v < 2 ^ 64 → q < 2 ^ 64 →
        (enc (.arr [Cbor.ofInt e.2, .bstr b])).length < 2 ^ 64 →
        (enc (.arr [.bstr (enc (.arr [Cbor.ofInt e.2, .bstr b]))])).length < 2 ^ 64 →
        (enc (.map [(Cbor.ofInt 1, .uint v), (Cbor.ofInt 2, .uint q)])).length < 2 ^ 64 →
        ∃ n : Node,
          Reads Generated.guards Generated.schema Generated.schema.envelope
            (enc (.tag 107 (.map [(Cbor.ofInt 2, .bstr (enc (.arr [.bstr (enc (.arr [Cbor.ofInt e.2, .bstr b]))]))),
                                  (Cbor.ofInt 3, .bstr (enc (.map [(Cbor.ofInt 1, .uint v), (Cbor.ofInt 2, .uint q)])))]))) n ∧
          n.toBytes = enc (.tag 107 (.map [(Cbor.ofInt 2, .bstr (enc (.arr [.bstr (enc (.arr [Cbor.ofInt e.2, .bstr b]))]))),
                                  (Cbor.ofInt 3, .bstr (enc (.map [(Cbor.ofInt 1, .uint v), (Cbor.ofInt 2, .uint q)])))])) := by
  obtain ⟨p⟩ := C03_envelope_chain
  obtain ⟨hi1, hi2, hm1, hm2⟩ := p.head
  refine ⟨p.es, p.algs, fun e he b v q hb hv hq hl1 hl2 hl3 => ?_⟩
  let awIn : Node := .tuple ["SuitDigest", p.kstar]
    [.wrapped (.alt 0 (Generated.schema.name p.ct) (.tuple [p.k1, p.k2] [.enumv e.1 e.2, .leaf (.bstr b) .hex]))]
  let mfIn : Node := .kv [(entryKey p.e1, .leaf (.uint v) .plain), (entryKey p.e2, .leaf (.uint q) .plain)]
  have hawBytes : awIn.toBytes = enc (.arr [.bstr (enc (.arr [Cbor.ofInt e.2, .bstr b]))]) := by
    simp [awIn, Node.toBytes, valList, Node.toVal]
  have hmfBytes : mfIn.toBytes = enc (.map [(Cbor.ofInt 1, .uint v), (Cbor.ofInt 2, .uint q)]) := by
    simpa [mfIn, kvsOf, nodesOf, Node.toVal, hi1, hi2] using
      kv_toBytes [(p.e1, .leaf (.uint v) .plain), (p.e2, .leaf (.uint q) .plain)] (by simp [hm1, hm2]) (by simp [hi1, hi2])
  have hA := C03_auth_wrapper_reads Generated.guards C03_enum_tables p.auth p.digest he hb hl1
  have hM := C03_manifest_head_reads Generated.guards p.manifest hv hq
  rw [hi1, hi2] at hM
  have key := C03_minimal_envelope_reads Generated.guards p.envelope (aw := .wrapped awIn) (mf := .wrapped mfIn)
    (by simp only [Node.toVal, hawBytes, Cbor.wf, decide_eq_true_eq]; exact hl2)
    (by simp only [Node.toVal, hmfBytes, Cbor.wf, decide_eq_true_eq]; exact hl3)
    rfl rfl
    (by rw [ensure_wrapped, hawBytes]; exact hA)
    (by rw [ensure_wrapped, hmfBytes]; exact hM)
  simp only [Node.toVal, hawBytes, hmfBytes, p.authId, p.manifestId] at key
  exact ⟨_, key⟩

/-! ### the other half for the scalar kinds: `from_obj(to_obj(n)) = n` for the leaves the decoder builds

Together with the lemmas above: for these kinds `create(parse(bytes))` rebuilds the very node, hence the very bytes. -/

theorem C03_recreate_uint (cx : Ctx) (n : Nat) :
    leafFromObj cx .uint (toObj (.leaf (.uint n) .plain)) = some (.ok (.leaf (.uint n) .plain)) := by
  simp [toObj, intObj, leafFromObj, scalarOk, scalarVal, Cbor.ofInt]

theorem C03_recreate_int (cx : Ctx) (z : Int) :
    leafFromObj cx .int (toObj (.leaf (Cbor.ofInt z) .plain)) = some (.ok (.leaf (Cbor.ofInt z) .plain)) := by
  have h : intObj (Cbor.ofInt z) = .int z := by
    unfold Cbor.ofInt
    split
    · simp only [intObj, Obj.int.injEq]; omega
    · simp only [intObj, Obj.int.injEq]; omega
  simp [toObj, h, leafFromObj, scalarOk, scalarVal]

theorem C03_recreate_bool (cx : Ctx) (v : Bool) :
    leafFromObj cx .bool (toObj (.leaf (Cbor.bool v) .plain)) = some (.ok (.leaf (Cbor.bool v) .plain)) := by
  cases v <;> simp [toObj, intObj, Cbor.bool, leafFromObj, scalarOk, scalarVal]

theorem C03_recreate_null (cx : Ctx) :
    leafFromObj cx .null (toObj (.leaf Cbor.null .plain)) = some (.ok (.leaf Cbor.null .plain)) := by
  simp [toObj, intObj, Cbor.null, leafFromObj, scalarOk, scalarVal]

/-- byte strings rendered as hex text (digests, payload content, signatures, key ids …) -/
theorem C03_recreate_hex (cx : Ctx) (b : Bytes) :
    leafFromObj cx .hex (toObj (.leaf (.bstr b) .hex)) = some (.ok (.leaf (.bstr b) .hex)) := by
  have h : ofHex (toHex b) = some b := by
    simp [ofHex, toHex, ofHexChars_toHexChars]
  simp [toObj, hexObj, leafFromObj, hexOfObj, h, bind, Except.bind, pure, Except.pure]

/-- enumerations, in a table without repeated names -/
theorem C03_recreate_enum (cx : Ctx) (es : List (String × Int)) (e : String × Int)
    (hf : es.find? (fun x => x.1 == e.1) = some e) :
    leafFromObj cx (.enum es) (toObj (.enumv e.1 e.2)) = some (.ok (.enumv e.1 e.2)) := by
  simp [toObj, leafFromObj, hf]

/-- the premise of `C03_recreate_enum` for every entry of every enumeration of `s` -/
def enumNamesOk (s : Schema) : Bool :=
  s.classes.all (fun c => match c.2 with
    | .enum es => es.all (fun e => es.find? (fun x => x.1 == e.1) == some e)
    | _ => true)

theorem C03_enum_names : enumNamesOk Generated.schema = true := by decide +kernel

end SuitVerif.Props.C03
