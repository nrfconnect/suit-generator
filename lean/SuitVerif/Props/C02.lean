import SuitVerif.Props.C08
import SuitVerif.CborDict
import SuitVerif.Typing
/-! # C02 — envelope wire format is the SUIT/COSE encoding of the description

Decomposed: (1) vocabulary = registry (C08, re-exported); (2) byte-string wrapping at exactly the prescribed layers and
command sequences as flat pairs: tables checked by the kernel against the extracted schema; (3) definite-length
shortest form, order preservation and single wrapping as theorems about the encoder (`Node.toVal` / `Node.toBytes`);
(4) byte-string layers exactly where the schema says, in every tree `from_obj` builds (typing theorem); (5) the three-way
comparison with the verifier's reference encoder on every generated description (harness). -/
namespace SuitVerif.Props.C02
open SuitVerif

/-- (1) every registered name has its registered integer in the running code -/
theorem C02_vocabulary :
    Registry.spaces.all (fun sp => sp.2.all (fun e => (Generated.schema.space sp.1).contains e)) = true :=
  C08.C08_registry_present

/-- (2a) `bstr .cbor` at exactly the prescribed members of the key-value classes -/
theorem C02_wrap_members :
    Registry.wrapTable.all (fun e => Generated.schema.memberWrapped e.1 e.2.1 == some e.2.2) = true := by
  decide +kernel

/-- (2b) … and at exactly the prescribed fields of the COSE / SUIT tuples -/
theorem C02_wrap_fields :
    Registry.wrapTupleTable.all (fun e => Generated.schema.fieldWrapped e.1 e.2.1 == some e.2.2) = true := by
  decide +kernel

/-- (2c) command sequences are lists grouped by two: flat (code, argument) pairs -/
theorem C02_command_sequences_flat :
    Registry.groupedLists.all (fun e => Generated.schema.groupOf e.1 == some e.2) = true := by
  decide +kernel

/-- (3a) a `cbstr` class adds exactly one byte-string layer around the encoding of its content -/
theorem C02_wrapped_once (n : Node) : (Node.wrapped n).toVal = .bstr n.toBytes ∧ (Node.wrapped n).toBytes = enc (.bstr n.toBytes) := by
  constructor <;> simp [Node.toVal, Node.toBytes]

/-- (3b) the envelope is the encoding of one CBOR value … -/
theorem C02_envelope_is_enc (t : Nat) (name : String) (n : Node) :
    (Node.tagged t name n).toBytes = enc (.tag t n.toVal) := by simp [Node.toBytes]

/-- … and every encoding is in definite-length shortest form: the strict reader accepts it and returns the value -/
theorem C02_shortest (t : Nat) (name : String) (n : Node) (hwf : (Cbor.tag t n.toVal).wf = true) :
    decodeStrict (Node.tagged t name n).toBytes = some (.tag t n.toVal) := by
  rw [C02_envelope_is_enc]; exact decodeStrict_enc _ hwf

theorem valList_map (xs : List Node) : valList xs = xs.map Node.toVal := by
  induction xs with
  | nil => simp [valList]
  | cons x xs ih => simp [valList, ih]

/-- (3c) lists keep the order and number of their elements -/
theorem C02_list_order (xs : List Node) : (Node.list false xs).toVal = .arr (xs.map Node.toVal) := by
  simp [Node.toVal, valList_map]

theorem flatList_commands (cmds : List (KvKey × Node)) :
    flatList (cmds.map (fun c => Node.kvTuple [c])) = cmds.flatMap (fun c => [Cbor.ofInt c.1.id, c.2.toVal]) := by
  induction cmds with
  | nil => simp [flatList]
  | cons c rest ih =>
    obtain ⟨k, a⟩ := c
    simp [flatList, Node.toVal, kvFlat, ih]

/-- (3d) a command sequence of single-entry commands is the flat list code₁, arg₁, code₂, arg₂, … in description order -/
theorem C02_flat_pairs (cmds : List (KvKey × Node)) :
    (Node.list true (cmds.map (fun c => Node.kvTuple [c]))).toVal
      = .arr (cmds.flatMap (fun c => [Cbor.ofInt c.1.id, c.2.toVal])) := by
  simp [Node.toVal, flatList_commands]

/-- (3e) a key-value node whose codes are pairwise different (and without flattened payload maps) encodes to the map
of (code, value) pairs in description order: nothing sorted, dropped or duplicated -/
theorem C02_map_order (es : List (KvKey × Node)) :
    ∀ (acc : List (Cbor × Cbor)),
      (∀ e ∈ es, e.1.merge = false) →
      (es.map (·.1.id)).Nodup → (∀ e ∈ es, acc.any (fun a => a.1 == Cbor.ofInt e.1.id) = false) →
      kvPairs es acc = acc ++ es.map (fun e => (Cbor.ofInt e.1.id, e.2.toVal)) :=
  fun acc hm hnd hacc => kvPairs_fresh es acc hm hnd hacc

/-- (4a) whatever `from_obj` builds for a class has the node shape the schema prescribes for that class: for every schema,
description, file system and hash function -/
theorem C02_typed (cx : Encode.Ctx) (fuel : Nat) (c : Cls) (o : Obj) (n : Node) (h : Encode.fromObj cx fuel c o = .ok n) :
    Typing.HasTy cx.schema c n := Typing.fromObj_typed cx fuel c o n h

/-- (4b) at a `bstr .cbor` class there is exactly one byte-string layer, around a tree of the inner class -/
theorem C02_layer_present (cx : Encode.Ctx) (fuel : Nat) (c inner : Cls) (o : Obj) (n : Node)
    (h : Encode.fromObj cx fuel c o = .ok n) (hc : cx.schema.ty c = some (.cbstr inner)) :
    ∃ m, n = .wrapped m ∧ Typing.HasTy cx.schema inner m ∧ n.toVal = .bstr m.toBytes :=
  let ⟨m, hm, ht⟩ := (C02_typed cx fuel c o n h).inv hc
  ⟨m, hm, ht, by rw [hm]; simp [Node.toVal]⟩

/-- (4c) … and at a map or tag class there is none: the value is embedded directly -/
theorem C02_layer_absent_map (cx : Encode.Ctx) (fuel : Nat) (c : Cls) (es : List Entry) (emb : Option String) (o : Obj) (n : Node)
    (h : Encode.fromObj cx fuel c o = .ok n) (hc : cx.schema.ty c = some (.keyValue es emb)) :
    ∃ r, n = .kv r ∧ n.toVal = .map (kvPairs r []) :=
  let ⟨r, hr, _, _⟩ := (C02_typed cx fuel c o n h).inv hc
  ⟨r, hr, by rw [hr]; simp [Node.toVal]⟩

theorem C02_layer_absent_tag (cx : Encode.Ctx) (fuel : Nat) (c : Cls) (t : Nat) (name : String) (child : Cls) (o : Obj) (n : Node)
    (h : Encode.fromObj cx fuel c o = .ok n) (hc : cx.schema.ty c = some (.tag t name child)) :
    ∃ m, n = .tagged t name m ∧ n.toVal = .tag t m.toVal :=
  let ⟨m, hm, _⟩ := (C02_typed cx fuel c o n h).inv hc
  ⟨m, hm, by rw [hm]; simp [Node.toVal]⟩

end SuitVerif.Props.C02
