import SuitVerif.Props.C04
import SuitVerif.Props.C06
/-! # C18 — output depends only on the inputs

The models of create, parse, storage, MPI and cache generation are pure functions of their arguments (no state is
threaded between calls), so history-independence holds of them by construction; the weight of this property is on the
correspondence over histories (harness/props/c18.py).  What is proved here is the non-trivial part: signing and
encryption differ between runs *only* in the signature value and in IV / ciphertext. -/
namespace SuitVerif.Props.C18
open SuitVerif SuitVerif.Sign SuitVerif.Encrypt

/-- two signing runs of the same envelope (same algorithm and key id) with different signature primitives produce
outputs of the same form `F sig`: they can differ only where the signature bytes sit -/
theorem C18_sign_diff_only_sig (f g : Bytes → Option Bytes) (t : Nat) (m : List (Cbor × Cbor)) (alg : Alg) (keyId : Int)
    (action : Action) (o1 o2 : Cbor) (blocks : List Cbor) (d : Bytes) (rest : List Cbor) (digest : Cbor)
    (hw : wrapperList m = .ok blocks) (hb : blocks = .bstr d :: rest) (hd : loads d = some digest)
    (hns : firstSign1 blocks = some none)
    (h1 : signEnvelope f (.tag t (.map m)) alg keyId action = .ok o1)
    (h2 : signEnvelope g (.tag t (.map m)) alg keyId action = .ok o2) :
    ∃ (F : Bytes → Cbor) (s1 s2 : Bytes), o1 = F s1 ∧ o2 = F s2 := by
  obtain ⟨s1, _, e1⟩ := C04.C04_appended f t m alg keyId action o1 blocks d rest digest hw hb hd hns h1
  obtain ⟨s2, _, e2⟩ := C04.C04_appended g t m alg keyId action o2 blocks d rest digest hw hb hd hns h2
  -- constructors by full name: with `.tag`, `.uint 2`, … the elaborator spends seconds in instance search
  exact ⟨fun sig => Cbor.tag t (Cbor.map (Sign.mapSet m (Cbor.uint 2)
    (Cbor.bstr (enc (Cbor.arr (blocks ++ [Cbor.bstr (enc (authBlock (enc (protectedMap alg keyId)) sig))])))))), s1, s2, e1, e2⟩

/-- two encryption runs of the same firmware and key id: the published info reads identically except for the IV -/
theorem C18_encrypt_diff_only_iv (gcm : GcmEnc) (key n1 n2 fw : Bytes) (keyId : Int)
    (h1 : n1.length = 12) (h2 : n2.length = 12) (hk : -(2 ^ 64 : Int) ≤ keyId ∧ keyId < 2 ^ 64) :
    ∃ v1 v2, readInfo (encryptAndGenerate ⟨Generated.aadLiteral⟩ gcm key n1 fw keyId).encryptionInfo = some v1
      ∧ readInfo (encryptAndGenerate ⟨Generated.aadLiteral⟩ gcm key n2 fw keyId).encryptionInfo = some v2
      ∧ v1.iv = n1 ∧ v2.iv = n2 ∧ v1.protectedBytes = v2.protectedBytes ∧ v1.keyId = v2.keyId
      ∧ v1.kwAlg = v2.kwAlg ∧ v1.cek = v2.cek := by
  exact ⟨_, _, C06.readInfo_encryptAndGenerate _ gcm key n1 fw keyId h1 hk,
    C06.readInfo_encryptAndGenerate _ gcm key n2 fw keyId h2 hk, rfl, rfl, rfl, rfl, rfl, rfl⟩

end SuitVerif.Props.C18
