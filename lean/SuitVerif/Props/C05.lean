import SuitVerif.EncodeProofs
/-! # C05 — digests, sizes and payloads taken from files describe those exact files

Every theorem is for all file systems `cx.fs`, all hash functions `cx.hashFn`, all budgets. The statements say what
the encoder is handed in place of a file reference; the node kinds then encode that value (a digest pair, an
unsigned integer, a byte string) as for a literal. -/
namespace SuitVerif.Props.C05
open SuitVerif SuitVerif.Encode SuitVerif.Py

/-! ### hexadecimal text is a faithful carrier: `a2b_hex(b.hex()) = b` (lower and upper case) -/

theorem C05_hex_roundtrip (b : Bytes) : ofHexChars (toHexChars b) = some b := ofHexChars_toHexChars b

theorem C05_hex_roundtrip_upper (b : Bytes) : ofHexChars (toHexCharsU b) = some b := ofHexChars_toHexCharsU b

def withBytes (kvs : List (String × Obj)) (v : Obj) : Obj :=
  .dict (kvs.map (fun e => if e.1 = "suit-digest-bytes" then (e.1, v) else e))

/-- `{file: p}`: the digest is the hash, under the named algorithm, of exactly the bytes of file `p` -/
theorem C05_file_digest (cx : Ctx) (fuel : Nat) (c raw : Cls) (kvs : List (String × Obj)) (a p : String)
    (content : Bytes) (hty : cx.schema.ty c = some (.digestExt raw))
    (halg : Obj.get? "suit-digest-algorithm-id" kvs = some (.str a))
    (hb : Obj.get? "suit-digest-bytes" kvs = some (.dict [("file", .str p)]))
    (hsup : cx.schema.hashes.any (fun e => e.1 == a) = true) (hfs : cx.fs p = some content) :
    fromObj cx (fuel + 1) c (.dict kvs) = fromObj cx fuel raw (withBytes kvs (.str (toHex (cx.hashFn a content)))) := by
  rw [fromObj]
  simp only [hty, leafFromObj, halg, hb, Obj.get?, Ctx.hash, hsup, if_true, hfs, withBytes]

/-- `{file_direct: p}`: the digest bytes are the bytes in the file, verbatim -/
theorem C05_file_direct_digest (cx : Ctx) (fuel : Nat) (c raw : Cls) (kvs : List (String × Obj)) (a : Obj) (p : String)
    (content : Bytes) (hty : cx.schema.ty c = some (.digestExt raw))
    (halg : Obj.get? "suit-digest-algorithm-id" kvs = some a)
    (hb : Obj.get? "suit-digest-bytes" kvs = some (.dict [("file_direct", .str p)]))
    (hfs : cx.fs p = some content) :
    fromObj cx (fuel + 1) c (.dict kvs) = fromObj cx fuel raw (withBytes kvs (.str (toHex content))) := by
  rw [fromObj]
  simp only [hty, leafFromObj, halg, hb, Obj.get?, withBytes]
  simp [hfs]

/-- a missing file is an error, never a silent default -/
theorem C05_file_missing (cx : Ctx) (fuel : Nat) (c raw : Cls) (kvs : List (String × Obj)) (a p : String)
    (hty : cx.schema.ty c = some (.digestExt raw))
    (halg : Obj.get? "suit-digest-algorithm-id" kvs = some (.str a))
    (hb : Obj.get? "suit-digest-bytes" kvs = some (.dict [("file", .str p)]))
    (hsup : cx.schema.hashes.any (fun e => e.1 == a) = true) (hfs : cx.fs p = none) :
    fromObj cx (fuel + 1) c (.dict kvs) = .error .osError := by
  rw [fromObj]
  simp only [hty, leafFromObj, halg, hb, Obj.get?, Ctx.hash, hsup, if_true, hfs]

/-- a dependency given inline: the parent records the hash, under the algorithm *the parent* names, of the wrapped
manifest of the child after the child's own digests were refreshed -/
theorem C05_dep_digest_inline (cx : Ctx) (fuel : Nat) (c raw : Cls) (kvs e : List (String × Obj)) (a : String)
    (node : Node) (d : Bytes) (hty : cx.schema.ty c = some (.digestExt raw))
    (halg : Obj.get? "suit-digest-algorithm-id" kvs = some (.str a))
    (hb : Obj.get? "suit-digest-bytes" kvs = some (.dict [("envelope", .dict e)]))
    (hchild : fromObj cx fuel cx.schema.envelope (.dict e) = .ok node)
    (hd : subEnvelopeDigest cx node a = .ok d) :
    fromObj cx (fuel + 1) c (.dict kvs) = fromObj cx fuel raw (withBytes kvs (.str (toHex d))) := by
  rw [fromObj]
  simp only [hty, leafFromObj, halg, hb, Obj.get?, withBytes]
  simp [hchild, hd, bind, Except.bind]

/-- … and that digest is the hash of the same manifest bytes the child's own authentication wrapper digests:
both are taken from the child tree after `update_severable_digests` and `update_digest` -/
theorem C05_dep_digest_same_bytes (cx : Ctx) (node : Node) (a : String) (d : Bytes)
    (h : subEnvelopeDigest cx node a = .ok d) :
    ∃ n1 n2 t name es m d' alg hd,
      updateSeverable cx node = .ok n1 ∧ updateDigest cx n1 = .ok n2
      ∧ n2 = .tagged t name (.kv es) ∧ kvGet es 3 = some m
      ∧ cx.hash a m.toBytes = some d                                   -- what the parent records
      ∧ authDigest es = some d' ∧ digestAlg d' = some alg
      ∧ cx.hash alg m.toBytes = some hd ∧ digestBytes d' = some hd      -- what the child's own wrapper holds
      := by
  unfold subEnvelopeDigest at h
  obtain ⟨n1, h1, h⟩ := Except.bind_eq_ok.mp h
  obtain ⟨n2, h2, h⟩ := Except.bind_eq_ok.mp h
  obtain ⟨t, name, _, es, m, d', alg, hd, -, rfl, -, hm, hauth, halg, hhash, hbytes⟩ := updateDigest_spec h2
  obtain ⟨m', hm', hd'⟩ := manifestDigest_eq_ok.mp h
  rw [hm] at hm'
  cases hm'
  exact ⟨n1, _, t, name, es, m, d', alg, hd, h1, h2, rfl, hm, hd', hauth, halg, hhash, hbytes⟩

/-- `{file: p}`: the image size is exactly the length of file `p` -/
theorem C05_size_file (cx : Ctx) (fuel : Nat) (c : Cls) (kvs : List (String × Obj)) (p : String) (content : Bytes)
    (hty : cx.schema.ty c = some .imageSize) (hraw : Obj.get? "raw" kvs = none)
    (hf : Obj.get? "file" kvs = some (.str p)) (hfs : cx.fs p = some content) :
    fromObj cx (fuel + 1) c (.dict kvs) = .ok (.leaf (.uint content.length) .rawInt) := by
  rw [fromObj]
  simp only [hty, leafFromObj, hraw, hf, hfs, scalarOk, scalarVal, Cbor.ofInt]
  simp

/-- `{envelope: {...}}`: the size is the length of the child envelope as created on its own -/
theorem C05_size_envelope (cx : Ctx) (fuel : Nat) (c : Cls) (kvs e : List (String × Obj)) (child : Bytes)
    (hty : cx.schema.ty c = some .imageSize) (hraw : Obj.get? "raw" kvs = none) (hf : Obj.get? "file" kvs = none)
    (he : Obj.get? "envelope" kvs = some (.dict e)) (hc : create cx fuel (.dict e) = .ok child) :
    fromObj cx (fuel + 1) c (.dict kvs) = .ok (.leaf (.uint child.length) .rawInt) := by
  rw [fromObj]
  simp only [hty, leafFromObj, hraw, hf, he, hc, bind, Except.bind, scalarOk, scalarVal, Cbor.ofInt]
  simp

/-- a payload given by the path of an existing file (the text is not all hex digits): the member is exactly the
file's content (handed to the byte-string kind as upper-case hex, which `C05_hex_roundtrip_upper` turns back) -/
theorem C05_payload_path (cx : Ctx) (fuel : Nat) (kc vc : Cls) (k p : String) (rest : List (String × Obj))
    (acc : List (String × Node × Node)) (content : Bytes)
    (hnothex : p.toList.all isHexDigit = false) (hfs : cx.fs p = some content) :
    fromObjPayloads cx (fuel + 1) kc vc ((k, .str p) :: rest) acc =
      (match fromObj cx fuel kc (.str k) with
       | .ok kn => (match fromObj cx fuel vc (.str (toHexU content)) with
          | .ok vn => fromObjPayloads cx fuel kc vc rest (Decode.strSet acc k (kn, vn))
          | .error e => .error e)
       | .error e => .error e) := by
  rw [fromObjPayloads]
  simp only [payloadAllHex, hnothex, hfs]
  simp
  cases fromObj cx fuel kc (Obj.str k) with
  | error e => rfl
  | ok kn => cases fromObj cx fuel vc (Obj.str (toHexU content)) <;> rfl

/-- a dependency given inline is embedded as exactly the bytes that creating it on its own produces -/
theorem C05_dep_inline (cx : Ctx) (fuel : Nat) (kc vc : Cls) (k : String) (e : String × Obj) (es : List (String × Obj))
    (rest : List (String × Obj)) (acc : List (String × Node × Node)) (child : Bytes)
    (hc : create cx fuel (.dict (e :: es)) = .ok child) :
    fromObjPayloads cx (fuel + 1) kc vc ((k, .dict (e :: es)) :: rest) acc =
      (match fromObj cx fuel kc (.str k) with
       | .ok kn => (match fromObj cx fuel vc (.str (toHexU child)) with
          | .ok vn => fromObjPayloads cx fuel kc vc rest (Decode.strSet acc k (kn, vn))
          | .error e => .error e)
       | .error e => .error e) := by
  rw [fromObjPayloads]
  simp only [payloadAllHex, List.isEmpty_cons, hc, bind, Except.bind, pure, Except.pure]
  simp
  cases fromObj cx fuel kc (Obj.str k) with
  | error e => rfl
  | ok kn => cases fromObj cx fuel vc (Obj.str (toHexU child)) <;> rfl

/-- the byte-string kind turns the upper-case hex text back into exactly those bytes -/
theorem C05_hex_leaf (cx : Ctx) (b : Bytes) :
    leafFromObj cx .hex (.str (toHexU b)) = some (.ok (.leaf (.bstr b) .hex)) := by
  simp [leafFromObj, hexOfObj, ofHex, toHexU, C05_hex_roundtrip_upper, bind, Except.bind, pure, Except.pure]

end SuitVerif.Props.C05
