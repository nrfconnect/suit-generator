import SuitVerif.Mpi
import SuitVerif.Except
import SuitVerif.IHexText
/-! # C12 — MPI records and merged MPI areas have the exact device layout -/
namespace SuitVerif.Props.C12
open SuitVerif SuitVerif.Mpi SuitVerif.IHex

theorem generate_ok (sha1 : Bytes → Bytes) (vendor cls : Bytes) (address size : Nat) (dp iu : Bool)
    (sv : SigPolicy) (img : Image) (h : generate sha1 vendor cls address size dp iu sv = .ok img) :
    ∃ svb, sigByte sv = .ok svb ∧
      img = [(address, padFF size (recordCore (Uuid.vid sha1 vendor) (Uuid.cid sha1 vendor cls) dp iu svb))] := by
  obtain ⟨svb, hs, h⟩ := Except.bind_eq_ok.mp h
  cases h
  exact ⟨svb, hs, rfl⟩

/-- The record: version 1, three policy bytes, twelve 0xFF, vendor UUID, class UUID, padded with 0xFF to
`size`; written at `address` and nowhere else.  For every SHA-1, every name, address, size. -/
theorem C12_record (sha1 : Bytes → Bytes) (vendor cls : Bytes) (address size : Nat) (dp iu : Bool)
    (sv : SigPolicy) (img : Image) (h : generate sha1 vendor cls address size dp iu sv = .ok img) :
    ∃ svb, sigByte sv = .ok svb ∧
      img = [(address,
        ([1, policyByte dp, policyByte iu, svb] ++ List.replicate 12 0xFF
          ++ Uuid.vid sha1 vendor ++ Uuid.cid sha1 vendor cls)
        ++ List.replicate (size - (16 + (Uuid.vid sha1 vendor).length + (Uuid.cid sha1 vendor cls).length)) 0xFF)] := by
  obtain ⟨svb, hs, rfl⟩ := generate_ok sha1 vendor cls address size dp iu sv img h
  refine ⟨svb, hs, ?_⟩
  simp only [padFF, recordCore, List.length_append, List.length_cons, List.length_nil, List.length_replicate, Nat.reduceAdd]

/-- policy bytes: 1 = off / none, 2 = on / update, 3 = update-and-boot; anything else is rejected -/
theorem C12_policy_table :
    policyByte false = 1 ∧ policyByte true = 2
    ∧ sigByte .none = .ok 1 ∧ sigByte .update = .ok 2 ∧ sigByte .updateAndBoot = .ok 3
    ∧ sigByte .other = .error .generatorError := ⟨rfl, rfl, rfl, rfl, rfl, rfl⟩

theorem padFF_length (size : Nat) (b : Bytes) : (padFF size b).length = max size b.length := by
  rw [padFF, List.length_append, List.length_replicate]; omega

theorem record_ne_nil (size : Nat) (v c : Bytes) (dp iu : Bool) (svb : UInt8) : padFF size (recordCore v c dp iu svb) ≠ [] := by
  simp [padFF, recordCore]

theorem recordCore_length (v c : Bytes) (dp iu : Bool) (svb : UInt8) (hv : v.length = 16) (hc : c.length = 16) :
    (recordCore v c dp iu svb).length = 48 := by
  simp [recordCore, hv, hc]

/-- with 16-byte identifiers (every SHA-1 of ≥ 16 bytes) and a reserved size ≥ 48 the record is exactly `size` long -/
theorem C12_record_length (v c : Bytes) (dp iu : Bool) (svb : UInt8) (size : Nat)
    (hv : v.length = 16) (hc : c.length = 16) (hsz : 48 ≤ size) :
    (padFF size (recordCore v c dp iu svb)).length = size := by
  rw [padFF_length, recordCore_length v c dp iu svb hv hc]
  omega

theorem uuid5_length (sha1 : Bytes → Bytes) (ns name : Bytes) (h : 16 ≤ (sha1 (ns ++ name)).length) :
    (Uuid.uuid5 sha1 ns name).length = 16 := by
  simp [Uuid.uuid5, Uuid.setVersion]; omega

/-- The merged file is the reserved area followed immediately by its digest, at `address`: the area is
`size` bytes long, holds every input byte at its original address and 0xFF elsewhere. For every function
substituted for SHA-256. -/
theorem C12_merge (sha256 : Bytes → Bytes) (address size : Nat) (inputs : List Image) (img : Image)
    (h : merge sha256 address size inputs = .ok img) :
    ∃ merged, mergeInputs address size [] (inputs.map nonEmptySegs) = .ok merged
      ∧ img = [(address, area address size merged ++ sha256 (area address size merged))]
      ∧ (area address size merged).length = size
      ∧ ∀ i, i < size → (area address size merged)[i]? = some ((Image.get merged (address + i)).getD 0xFF) := by
  obtain ⟨merged, hm, h⟩ := Except.bind_eq_ok.mp h
  cases h
  exact ⟨merged, hm, rfl, by simp [area], fun i hi => by simp [area, hi]⟩

/-- an input reaching outside the area is rejected -/
theorem C12_reject_outside (address size : Nat) (acc img : Image) (rest : List Image) (lo hi : Nat)
    (hlo : minAddr img = some lo) (hhi : maxAddr img = some hi)
    (hout : lo < address ∨ hi > address + size - 1) :
    mergeInputs address size acc (img :: rest) = .error .generatorError := by
  simp [mergeInputs, hlo, hhi, hout]

/-- an input overlapping what has been merged so far is rejected -/
theorem C12_reject_overlap (address size : Nat) (acc img : Image) (rest : List Image) (lo hi : Nat)
    (hlo : minAddr img = some lo) (hhi : maxAddr img = some hi)
    (hin : ¬ (lo < address ∨ hi > address + size - 1)) (hov : overlaps acc img = true) :
    mergeInputs address size acc (img :: rest) = .error .overlap := by
  simp [mergeInputs, hlo, hhi, hin, hov]

/-- accepted inputs are all kept: merging never drops or moves a segment -/
theorem C12_merge_keeps (address size : Nat) (inputs : List Image) :
    ∀ (acc merged : Image), mergeInputs address size acc inputs = .ok merged → merged = acc ++ inputs.flatten := by
  induction inputs with
  | nil => intro acc merged h; simp [mergeInputs] at h; simp [h]
  | cons img rest ih =>
    intro acc merged h
    simp only [mergeInputs] at h
    split at h
    · split at h
      · cases h
      · split at h
        · cases h
        · have := ih _ _ h
          simp [this, List.append_assoc]
    · cases h

theorem checkRecord_padFF (v c : Bytes) (address size : Nat) (dp iu : Bool) (svb : UInt8) (hv : v.length = 16) (hc : c.length = 16) :
    checkRecord [(address, padFF size (recordCore v c dp iu svb))] v c address size dp iu svb = true := by
  obtain ⟨f1, f2, f3, f4, f5⟩ := fields4 [1, policyByte dp, policyByte iu, svb] (List.replicate 12 0xFF) v c (List.replicate (size - 48) 0xFF)
  simp only [List.length_cons, List.length_nil, List.length_replicate, hv, hc, Nat.reduceAdd] at f1 f2 f3 f4 f5
  have hl := recordCore_length v c dp iu svb hv hc
  rw [checkRecord, canon_single _ _ (record_ne_nil size v c dp iu svb)]
  simp only [padFF_length, hl]  -- the length while `padFF` is still folded; the five fields after unfolding it
  rw [padFF, hl, recordCore]
  simp only [f1, f2, f3, f4, f5]
  simp

/-- model ⟹ spec: with 16-byte identifiers the generated image satisfies `checkRecord` -/
theorem C12_record_checks (sha1 : Bytes → Bytes) (vendor cls : Bytes) (address size : Nat) (dp iu : Bool)
    (sv : SigPolicy) (img : Image) (h : generate sha1 vendor cls address size dp iu sv = .ok img)
    (hv : (Uuid.vid sha1 vendor).length = 16) (hc : (Uuid.cid sha1 vendor cls).length = 16) :
    ∃ svb, sigByte sv = .ok svb ∧
      checkRecord img (Uuid.vid sha1 vendor) (Uuid.cid sha1 vendor cls) address size dp iu svb = true := by
  obtain ⟨svb, hs, rfl⟩ := generate_ok sha1 vendor cls address size dp iu sv img h
  exact ⟨svb, hs, checkRecord_padFF _ _ address size dp iu svb hv hc⟩

/-- model ⟹ spec for merge: whenever the model accepts the inputs (given without empty segments), the
output satisfies `checkMerge` -/
theorem C12_merge_checks (sha256 : Bytes → Bytes) (address size : Nat) (inputs : List Image) (img : Image)
    (hne : inputs.map nonEmptySegs = inputs) (h : merge sha256 address size inputs = .ok img) :
    checkMerge sha256 img address size inputs = true := by
  obtain ⟨merged, hm, himg, _, _⟩ := C12_merge sha256 address size inputs img h
  rw [hne] at hm
  have := C12_merge_keeps address size inputs [] merged hm
  simp only [List.nil_append] at this
  subst this
  subst himg
  simp [checkMerge]

/-- **file level**: the text of the hex file `mpi generate` writes (writer model `IHex.writeText` of the third-party `intelhex` writer) reads back,
with the strict reader, as exactly the record at the given address - for every address, reserved size and name with the record ending below 2^32 -/
theorem C12_record_file (sha1 : Bytes → Bytes) (vendor cls : Bytes) (address size : Nat) (dp iu : Bool)
    (sv : SigPolicy) (img : Image) (h : generate sha1 vendor cls address size dp iu sv = .ok img) :
    ∃ rec, img = [(address, rec)] ∧ rec ≠ [] ∧ (address + rec.length ≤ 2 ^ 32 → IHex.read (IHex.writeText address rec) = some img) := by
  obtain ⟨svb, _, himg⟩ := generate_ok sha1 vendor cls address size dp iu sv img h
  have hne := record_ne_nil size (Uuid.vid sha1 vendor) (Uuid.cid sha1 vendor cls) dp iu svb
  refine ⟨_, himg, hne, fun hb => ?_⟩
  rw [IHex.read_writeText address _ hb, himg, if_neg hne]

/-- **file level, merged area**: the text of the file for any canonical image (the merged area with its digest is one block; inputs with gaps are
several) reads back as exactly that image -/
theorem C12_area_file (c : Image) (hsep : IHex.Separated c) (hb : ∀ s ∈ c, s.1 + s.2.length ≤ 2 ^ 32) :
    IHex.read (IHex.writeImageText c) = some c := IHex.read_writeImageText c hsep hb

end SuitVerif.Props.C12
