import SuitVerif.Version
/-! # C20 — version strings and default sequence numbers preserve release ordering

Three parts: the order (`C20_order_partial`, with the two counterexamples to the full statement, and the sequence number); the parser
on the supported grammar (`C20_parse_render`); the default version string of `ncs/build.py` (`C20_default_version`). -/
namespace SuitVerif.Props.C20
open SuitVerif.Version

def preList : Option (Label × Option Nat) → List Int
  | none => []
  | some (l, none) => [l.code]
  | some (l, some n) => [l.code, (n : Int)]

theorem conv_eq (v : Ver) : conv v = v.nums.map (fun (n : Nat) => (n : Int)) ++ preList v.pre := by
  unfold conv preList; rcases v.pre with _ | ⟨l, _ | n⟩ <;> rfl

/-- a pre-release number written explicitly as 0 (`alpha.0`): the zero-padded list cannot tell it from `alpha` -/
def ExplicitZero : Option (Label × Option Nat) → Prop
  | some (_, some 0) => True
  | _ => False

theorem code_neg (l : Label) : l.code < 0 := by cases l <;> decide
theorem code_lt {l1 l2 : Label} : l1.code < l2.code ↔ l1.rank < l2.rank := by cases l1 <;> cases l2 <;> decide
theorem code_inj {l1 l2 : Label} : l1.code = l2.code ↔ l1 = l2 := by cases l1 <;> cases l2 <;> decide

theorem listLt_cons (a b : Int) (xs ys : List Int) :
    listLt (a :: xs) (b :: ys) = (decide (a < b) || (decide (a = b) && listLt xs ys)) := by
  rcases Int.lt_trichotomy a b with h | rfl | h
  · simp [listLt, h]
  · simp [listLt]
  · simp [listLt, h, Int.lt_asymm h, Int.ne_of_gt h]

theorem zerosLt_neg {c : Int} (h : c < 0) (ys : List Int) : zerosLt (c :: ys) = false := by
  simp [zerosLt, h, Int.le_of_lt h]

theorem ltZeros_neg {c : Int} (h : c < 0) (xs : List Int) : ltZeros (c :: xs) = true := by
  simp [ltZeros, h]

theorem lt_same_len (xs ys : List Nat) (p q : List Int) (h : xs.length = ys.length) :
    listLt (xs.map (fun (n : Nat) => (n : Int)) ++ p) (ys.map (fun (n : Nat) => (n : Int)) ++ q)
      = (numsLt xs ys || (numsEq xs ys && listLt p q)) := by
  induction xs generalizing ys with
  | nil => cases ys <;> simp_all [numsLt, numsEq, anyPos, allZero]
  | cons x xs ih =>
    rcases ys with _ | ⟨y, ys⟩
    · simp at h
    simp only [List.length_cons, Nat.add_right_cancel_iff] at h
    simp only [List.map_cons, List.cons_append, listLt, numsLt, numsEq, ih ys h, Int.ofNat_lt]
    rcases Nat.lt_trichotomy x y with h | rfl | h
    · simp [h]
    · simp
    · simp [h, Nat.lt_asymm h, Nat.ne_of_gt h]

theorem pre_lt (p q : Option (Label × Option Nat)) (hq : ¬ ExplicitZero q) :
    listLt (preList p) (preList q) = preLt p q := by
  rcases p with _ | ⟨l1, n1⟩ <;> rcases q with _ | ⟨l2, n2⟩
  · rfl
  · cases n2 <;> exact zerosLt_neg (code_neg l2) _
  · cases n1 <;> exact ltZeros_neg (code_neg l1) _
  · -- labels by `code_lt`, `code_inj`; then the numbers, an absent one counting as 0
    have hn : n2 ≠ some 0 := fun h => hq (h ▸ trivial)
    rcases n1 with _ | n1 <;> rcases n2 with _ | n2 <;>
      simp only [preList, preLt, listLt_cons, code_lt, code_inj, Bool.beq_eq_decide_eq]
    · rfl
    · simp_all [listLt, zerosLt, Nat.pos_iff_ne_zero] -- `l` below `l.n2`: the one case that needs `n2 ≠ 0`
    · simp [listLt, ltZeros, Int.not_ofNat_neg]
    · simp [listLt, zerosLt]

/-- **Order, partial.** For versions with the same number of numeric fields and no pre-release number written
explicitly as 0, semantic-version precedence coincides with zero-padded element-wise comparison of the
integer lists.  Field values are unbounded. -/
theorem C20_order_partial (a b : Ver) (hlen : a.nums.length = b.nums.length)
    (ha : ¬ ExplicitZero a.pre) (hb : ¬ ExplicitZero b.pre) :
    semverLt a b = listLt (conv a) (conv b) := by
  have _ := ha -- not needed: only an explicit zero on the right breaks the equation (`pre_lt`)
  rw [conv_eq, conv_eq, lt_same_len _ _ _ _ hlen, pre_lt _ _ hb]; rfl

/-- **Order, full statement fails** (finding F10a): different numbers of numeric fields.
`1.0.0-alpha < 1.0-rc` in semantic-version precedence, but `[1,0,0,-3]` is not below `[1,0,-1]`. -/
theorem C20_full_fails_mixed :
    ∃ a b : Ver, semverLt a b ≠ listLt (conv a) (conv b) :=
  ⟨⟨[1, 0, 0], some (.alpha, none)⟩, ⟨[1, 0], some (.rc, none)⟩, by decide⟩

/-- **Order, full statement fails** (finding F10b): `1.0.0-alpha < 1.0.0-alpha.0` by semver rule 11.4.4, but both
lists are equal under zero padding. -/
theorem C20_full_fails_zero :
    ∃ a b : Ver, a.nums.length = b.nums.length ∧ semverLt a b ≠ listLt (conv a) (conv b) :=
  ⟨⟨[1, 0, 0], some (.alpha, none)⟩, ⟨[1, 0, 0], some (.alpha, some 0)⟩, rfl, by decide⟩

/-- an unsupported pre-release label is rejected: a part that is neither numeric nor alpha/beta/rc converts to
nothing … -/
theorem C20_rejects_part (p : List Char) (h1 : isNumeric p = false) (h2 : labelOf p = none) :
    convertPart p = none := by
  simp [convertPart, h1, h2]

theorem allSome_eq_some {α} {l : List (Option α)} {x : List α} : allSome l = some x ↔ l = x.map some := by
  induction l generalizing x with
  | nil => cases x <;> simp [allSome]
  | cons o rest ih =>
    cases o with
    | none => cases x <;> simp [allSome]
    | some v =>
      cases x with
      | nil => simp [allSome]
      | cons y ys => simpa [allSome, ih] using and_comm

theorem allSome_none {α} (l : List (Option α)) (h : none ∈ l) : allSome l = none :=
  Option.eq_none_iff_forall_ne_some.mpr fun x hx => by simp [allSome_eq_some.mp hx] at h

/-- … and a version string containing such a part is rejected as a whole. -/
theorem C20_rejects (s : List Char) (p : List Char) (hp : p ∈ splitOn '.' (replaceChar '-' '.' s))
    (h1 : isNumeric p = false) (h2 : labelOf p = none) : parseVersion s = none :=
  allSome_none _ (List.mem_map.mpr ⟨p, hp, C20_rejects_part p h1 h2⟩)

def lexLt (a b : Nat × Nat × Nat × Nat) : Prop :=
  a.1 < b.1 ∨ (a.1 = b.1 ∧ (a.2.1 < b.2.1 ∨ (a.2.1 = b.2.1 ∧ (a.2.2.1 < b.2.2.1 ∨ (a.2.2.1 = b.2.2.1 ∧ a.2.2.2 < b.2.2.2)))))

/-- the default sequence number is strictly increasing in (major, minor, patch, tweak) order whenever
minor, patch and tweak are below 256 (any major) -/
theorem C20_seq_strict (M m p t M' m' p' t' : Nat)
    (h1 : m < 256) (h2 : p < 256) (h3 : t < 256) (h1' : m' < 256) (h2' : p' < 256) (h3' : t' < 256) :
    lexLt (M, m, p, t) (M', m', p', t') ↔ seqNum M m p t < seqNum M' m' p' t' := by
  simp only [lexLt, seqNum]
  omega

/-- outside that range the order can break: minor = 256 collides with the next major -/
theorem C20_seq_needs_range : seqNum 1 256 0 0 = seqNum 2 0 0 0 := by decide

/-! ### the supported grammar is parsed to the draft's integer list -/

def natText (n : Nat) : List Char := Nat.toDigits 10 n

def joinWith (sep : Char) : List (List Char) → List Char
  | [] => []
  | [s] => s
  | s :: t :: rest => s ++ sep :: joinWith sep (t :: rest)

def preSegs : Option (Label × Option Nat) → List (List Char)
  | none => []
  | some (l, none) => [l.text]
  | some (l, some n) => [l.text, natText n]

/-- the text of a version of the supported grammar: `N(.N)*[-(alpha|beta|rc)[.N]]` -/
def render (v : Ver) : List Char :=
  joinWith '.' (v.nums.map natText) ++
    (match v.pre with
     | none => []
     | some (l, none) => '-' :: l.text
     | some (l, some n) => '-' :: (l.text ++ '.' :: natText n))

theorem natText_digit (n : Nat) (c : Char) (h : c ∈ natText n) : isDigit c = true := by
  have := Nat.isDigit_of_mem_toDigits (b := 10) (by decide) (by decide) h
  simpa [isDigit, Char.isDigit, Char.le_def] using this

theorem natText_no (n : Nat) (c : Char) (hc : isDigit c = false) : c ∉ natText n := by
  intro h; have := natText_digit n c h; simp [hc] at this

theorem natText_all_digit (n : Nat) : (natText n).all isDigit = true :=
  List.all_eq_true.mpr (natText_digit n)

theorem natText_ne_nil (n : Nat) : natText n ≠ [] := Nat.toDigits_ne_nil

theorem splitOn_ne_nil (sep : Char) (s : List Char) : splitOn sep s ≠ [] := by
  cases s with
  | nil => simp [splitOn]
  | cons c rest =>
    unfold splitOn
    split
    · simp
    · split <;> simp

theorem splitOn_clean (sep : Char) (s : List Char) (h : sep ∉ s) : splitOn sep s = [s] := by
  induction s with
  | nil => simp [splitOn]
  | cons c rest ih =>
    simp only [List.mem_cons, not_or] at h
    have hc : ¬ (c = sep) := fun e => h.1 e.symm
    simp [splitOn, hc, ih h.2]

theorem splitOn_append (sep : Char) (s t : List Char) :
    splitOn sep (s ++ sep :: t) = splitOn sep s ++ splitOn sep t := by
  induction s with
  | nil => simp [splitOn]
  | cons c rest ih =>
    obtain ⟨p, ps, hp⟩ := List.exists_cons_of_ne_nil (splitOn_ne_nil sep rest)
    by_cases hc : c = sep <;> simp [splitOn, hc, ih, hp]

theorem replaceChar_clean (a b : Char) (s : List Char) (h : a ∉ s) : replaceChar a b s = s := by
  have : ∀ c ∈ s, (if c = a then b else c) = id c := fun c hc => if_neg fun (e : c = a) => h (e ▸ hc)
  rw [replaceChar, List.map_congr_left this, List.map_id]

/-! `parseVersion` splits at `.` after replacing `-` by `.`, so both characters separate
(stated for any two characters `a`, `sep`). -/

theorem parts_append (a sep : Char) (s t : List Char) {c : Char} (hc : c = a ∨ c = sep) :
    splitOn sep (replaceChar a sep (s ++ c :: t))
      = splitOn sep (replaceChar a sep s) ++ splitOn sep (replaceChar a sep t) := by
  have : (if c = a then sep else c) = sep := by rcases hc with rfl | rfl <;> simp
  simp [replaceChar, this, splitOn_append]

theorem parts_clean (a sep : Char) (s : List Char) (h : a ∉ s ∧ sep ∉ s) :
    splitOn sep (replaceChar a sep s) = [s] := by
  rw [replaceChar_clean _ _ _ h.1, splitOn_clean _ _ h.2]

theorem parts_join (a sep : Char) (segs : List (List Char)) (hne : segs ≠ []) (h : ∀ s ∈ segs, a ∉ s ∧ sep ∉ s) :
    splitOn sep (replaceChar a sep (joinWith sep segs)) = segs := by
  induction segs with
  | nil => exact absurd rfl hne
  | cons s rest ih =>
    cases rest with
    | nil => exact parts_clean a sep s (h s (by simp))
    | cons t rest =>
      rw [joinWith, parts_append a sep _ _ (.inr rfl), parts_clean a sep s (h s (by simp)),
        ih (by simp) fun x hx => h x (by simp [hx])]
      rfl

theorem natText_clean (n : Nat) : '-' ∉ natText n ∧ '.' ∉ natText n :=
  ⟨natText_no n _ (by decide), natText_no n _ (by decide)⟩

theorem text_clean (l : Label) : '-' ∉ l.text ∧ '.' ∉ l.text := by cases l <;> decide +kernel

theorem parts_render (v : Ver) (hne : v.nums ≠ []) :
    splitOn '.' (replaceChar '-' '.' (render v)) = v.nums.map natText ++ preSegs v.pre := by
  have hnums := parts_join '-' '.' (v.nums.map natText) (by simpa using hne) (by simp [natText_clean])
  obtain ⟨nums, _ | ⟨l, _ | n⟩⟩ := v
  · simpa [render, preSegs] using hnums
  · rw [render, parts_append _ _ _ _ (.inl rfl), hnums, parts_clean _ _ _ (text_clean l)]; rfl
  · rw [render, parts_append _ _ _ _ (.inl rfl), parts_append _ _ _ _ (.inr rfl), hnums,
      parts_clean _ _ _ (text_clean l), parts_clean _ _ _ (natText_clean n)]; rfl

theorem digitsToNat_eq (s : List Char) : digitsToNat s = Nat.ofDigitChars 10 s 0 := by
  unfold digitsToNat Nat.ofDigitChars
  congr 1; funext acc c; simp [Nat.mul_comm]

theorem convertPart_nat (n : Nat) : convertPart (natText n) = some (n : Int) := by
  have h1 : isNumeric (natText n) = true := by simp [isNumeric, natText_all_digit, natText_ne_nil]
  rw [convertPart, if_pos h1, digitsToNat_eq, natText, Nat.ofDigitChars_toDigits (by decide) (by decide)]

theorem convertPart_label (l : Label) : convertPart l.text = some l.code := by cases l <;> decide +kernel

theorem convertPart_segs (v : Ver) : (v.nums.map natText ++ preSegs v.pre).map convertPart = (conv v).map some := by
  rw [conv_eq, List.map_append, List.map_append, List.map_map, List.map_map]
  congr 1
  · exact List.map_congr_left fun n _ => convertPart_nat n
  · rcases v.pre with _ | ⟨l, _ | n⟩ <;> simp [preSegs, preList, convertPart_label, convertPart_nat]

/-- **Parsing the supported grammar.** Every version of the grammar `N(.N)*[-(alpha|beta|rc)[.N]]`, with unbounded
numbers, is accepted and read as the integer list the draft assigns to it. -/
theorem C20_parse_render (v : Ver) (hne : v.nums ≠ []) : parseVersion (render v) = some (conv v) := by
  rw [parseVersion, parts_render v hne]
  exact allSome_eq_some.mpr (convertPart_segs v)

example : render ⟨[1, 20, 3], some (.rc, some 4)⟩ = "1.20.3-rc.4".toList := by decide +kernel

/-! ### the default version string of `ncs/build.py` is in the grammar -/

theorem matchExtra_label (l : Label) : matchExtra l.text = some (l, none) := by cases l <;> decide +kernel

theorem matchExtra_label_num (l : Label) (n : Nat) (dot : Bool) :
    matchExtra (l.text ++ (if dot then ['.'] else []) ++ natText n) = some (l, some (natText n)) := by
  have hd := natText_all_digit n
  cases hnt : natText n with
  | nil => exact absurd hnt (natText_ne_nil n)
  | cons c cs =>
    have hc : c ≠ '.' := fun h => natText_no n '.' (by decide) (by simp [hnt, h])
    rw [hnt] at hd
    -- three labels, with and without the dot: each time the prefix test and the digit test of `matchExtra` are evaluated
    cases l <;> cases dot <;>
      simp [matchExtra, Label.text, List.isPrefixOf, Option.orElse, hd, hc, List.drop]

/-- the `EXTRAVERSION` text of a pre-release (`dot`: written `rc.1` rather than `rc1`) -/
def extraOf (pre : Option (Label × Option Nat)) (dot : Bool) : Option (List Char) :=
  match pre with
  | none => none
  | some (l, none) => some l.text
  | some (l, some n) => some (l.text ++ (if dot then ['.'] else []) ++ natText n)

/-- **Default version string.** For every VERSION file with numeric MAJOR / MINOR / PATCHLEVEL and an EXTRAVERSION that is absent or of
the form label, labelN or label.N, the default version string `ncs/build.py` derives is the text of the grammar for exactly that
version (unbounded numbers) … -/
theorem C20_default_version (M m p : Nat) (pre : Option (Label × Option Nat)) (dot : Bool) :
    defaultVersion (natText M) (natText m) (natText p) (extraOf pre dot) = render ⟨[M, m, p], pre⟩ := by
  rcases pre with _ | ⟨l, _ | n⟩
  · simp [defaultVersion, extraOf, render, joinWith, List.append_assoc]
  · simp [defaultVersion, extraOf, render, joinWith, matchExtra_label, List.append_assoc]
  · simp only [defaultVersion, extraOf, matchExtra_label_num, render, joinWith, List.map_cons, List.map_nil]
    simp [List.append_assoc]

/-- … and therefore the manifest encoder reads it as the integer list the draft assigns to that version -/
theorem C20_default_version_parses (M m p : Nat) (pre : Option (Label × Option Nat)) (dot : Bool) :
    parseVersion (defaultVersion (natText M) (natText m) (natText p) (extraOf pre dot)) = some (conv ⟨[M, m, p], pre⟩) := by
  rw [C20_default_version]; exact C20_parse_render _ (by simp)

example : defaultVersion (natText 1) (natText 2) (natText 3) (extraOf (some (.rc, some 1)) false) = "1.2.3-rc.1".toList := by decide +kernel

example : parseVersion "1.2.3-rc.4".toList = some [1, 2, 3, -1, 4] := by decide +kernel
example : parseVersion "1.2.3-gamma".toList = none := by decide +kernel
example : defaultVersion "1".toList "2".toList "3".toList (some "rc1".toList) = "1.2.3-rc.1".toList := by decide +kernel

end SuitVerif.Props.C20
