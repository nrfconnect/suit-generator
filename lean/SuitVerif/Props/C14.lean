import SuitVerif.Props.C06
/-! # C14 — every encryption uses a fresh IV (logic part; that the OS entropy source does not repeat is runtime)

The model: `os.urandom(12)` reads the next 12 bytes of an entropy stream; the only state carried from one
`encrypt-and-generate` call to the next is the position in that stream. -/
namespace SuitVerif.Props.C14
open SuitVerif SuitVerif.Encrypt SuitVerif.Props.C06

/-- the IV a consumer reads out of published artifacts -/
def ivOf (a : Artifacts) : Option Bytes := (readInfo a.encryptionInfo).map (·.iv)

theorem window_length (ent : Nat → UInt8) (pos : Nat) : (window ent pos).length = 12 := by simp [window]

theorem ivOf_step (c : Consts) (gcm : GcmEnc) (ent : Nat → UInt8) (key : Bytes) (pos : Nat) (fw : Bytes) (keyId : Int)
    (hk : -(2 ^ 64 : Int) ≤ keyId ∧ keyId < 2 ^ 64) :
    ivOf (step c gcm ent key pos fw keyId).2 = some (window ent pos) := by
  rw [ivOf, step, readInfo_encryptAndGenerate c gcm key _ fw keyId (window_length ent pos) hk]; rfl

/-- **The published IV is the nonce of this call, and it is the one the ciphertext was produced with**: the
encryption info of a call holds, under key 5, the 12 bytes drawn from the stream by *this* call, and those are the
nonce handed to AES-GCM. -/
theorem C14_iv_from_this_call (gcm : GcmEnc) (ent : Nat → UInt8) (key : Bytes) (pos : Nat) (fw : Bytes) (keyId : Int)
    (hk : -(2 ^ 64 : Int) ≤ keyId ∧ keyId < 2 ^ 64) :
    ivOf (step ⟨Generated.aadLiteral⟩ gcm ent key pos fw keyId).2 = some (window ent pos)
    ∧ (step ⟨Generated.aadLiteral⟩ gcm ent key pos fw keyId).2
        = generate (window ent pos ++ (gcm key (window ent pos) Generated.aadLiteral fw).2
            ++ (gcm key (window ent pos) Generated.aadLiteral fw).1) none keyId (-6)
    ∧ (step ⟨Generated.aadLiteral⟩ gcm ent key pos fw keyId).1 = pos + 12 :=
  ⟨ivOf_step _ gcm ent key pos fw keyId hk, rfl, rfl⟩

theorem run_ivs (c : Consts) (gcm : GcmEnc) (ent : Nat → UInt8) (key : Bytes) :
    ∀ (hist : List (Bytes × Int)) (pos : Nat), (∀ e ∈ hist, -(2 ^ 64 : Int) ≤ e.2 ∧ e.2 < 2 ^ 64) →
      (run c gcm ent key pos hist).map ivOf
        = (List.range hist.length).map (fun i => some (window ent (pos + 12 * i))) := by
  intro hist
  induction hist with
  | nil => intro pos _; rfl
  | cons e rest ih =>
    intro pos hk
    rw [List.length_cons, List.range_succ_eq_map, List.map_cons, List.map_map]
    show ivOf (step c gcm ent key pos e.1 e.2).2 :: (run c gcm ent key (pos + 12) rest).map ivOf = _
    rw [ivOf_step c gcm ent key pos e.1 e.2 (hk e (by simp)), ih (pos + 12) (fun e he => hk e (by simp [he]))]
    congr 1
    -- `rw` on the position: unifying `window ent a` with `window ent b` unfolds `window` on open arithmetic
    exact List.map_congr_left fun i _ => by
      show some (window ent (pos + 12 + 12 * i)) = some (window ent (pos + 12 * (i + 1)))
      rw [Nat.mul_succ, Nat.add_assoc, Nat.add_comm 12]

/-- over a history the i-th call publishes the i-th window of the stream: no call re-uses another call's draw -/
theorem C14_no_reuse_of_draws (gcm : GcmEnc) (ent : Nat → UInt8) (key : Bytes) :
    ∀ (hist : List (Bytes × Int)) (pos : Nat), (∀ e ∈ hist, -(2 ^ 64 : Int) ≤ e.2 ∧ e.2 < 2 ^ 64) →
      (run ⟨Generated.aadLiteral⟩ gcm ent key pos hist).map ivOf
        = (List.range hist.length).map (fun i => some (window ent (pos + 12 * i))) :=
  run_ivs _ gcm ent key

/-- the stream positions read by different calls are disjoint ranges -/
theorem C14_disjoint_ranges (pos i j : Nat) (h : i ≠ j) (a b : Nat) (ha : a < 12) (hb : b < 12) :
    pos + 12 * i + a ≠ pos + 12 * j + b := by omega

/-- freshness of the entropy stream over the first `n` draws: distinct draws are distinct byte strings -/
def StreamFresh (ent : Nat → UInt8) (pos n : Nat) : Prop :=
  ∀ i j, i < n → j < n → i ≠ j → window ent (pos + 12 * i) ≠ window ent (pos + 12 * j)

/-- **Pairwise distinct IVs.** Under stream freshness, across any history of calls with the same key - including
repeated encryption of identical firmware - the published IVs are pairwise distinct. -/
theorem C14_pairwise_distinct (gcm : GcmEnc) (ent : Nat → UInt8) (key : Bytes) (hist : List (Bytes × Int)) (pos : Nat)
    (hk : ∀ e ∈ hist, -(2 ^ 64 : Int) ≤ e.2 ∧ e.2 < 2 ^ 64) (hfresh : StreamFresh ent pos hist.length)
    (i j : Nat) (hi : i < hist.length) (hj : j < hist.length) (hij : i ≠ j) :
    ((run ⟨Generated.aadLiteral⟩ gcm ent key pos hist).map ivOf)[i]? ≠
      ((run ⟨Generated.aadLiteral⟩ gcm ent key pos hist).map ivOf)[j]? := by
  rw [C14_no_reuse_of_draws gcm ent key hist pos hk]
  simp only [List.getElem?_map, List.getElem?_range hi, List.getElem?_range hj, Option.map_some]
  intro h
  exact hfresh i j hi hj hij (by simpa using h)

end SuitVerif.Props.C14
