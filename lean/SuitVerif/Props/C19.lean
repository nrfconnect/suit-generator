import SuitVerif.Template
/-! # C19 — NCS templates yield consistent dependency wiring for every image set

Theorems about the parts from which the template model (`Template.root`, `Template.top`) assembles the root description
(`RootCfg.components`, `componentList`, `withoutTop`, `images`, `verifyBlock`), for all names, versions and child names and all
2^3 presence combinations of the three images. The link from the Jinja files to the model is the correspondence on
the rendered and loaded document over the complete configuration space (harness/props/c19.py). -/
namespace SuitVerif.Props.C19
open SuitVerif SuitVerif.Template

/-- the number of declared components: the candidate manifest plus one installed manifest per present image -/
theorem C19_component_count (c : RootCfg) : c.components.length = c.images.length + 1 := by
  simp [RootCfg.components, RootCfg.images] <;> omega

/-- **Every component index used by a command refers to a declared component**: the indices of the shared sequence
(`component_list`), of validate / invoke (`component_list_without_top`) and the literal 0 of install and
candidate-verification are all below the number of declared components -/
theorem C19_indices_declared (c : RootCfg) :
    (∀ i ∈ c.componentList, i < c.components.length)
    ∧ (∀ i ∈ c.withoutTop, i < c.components.length)
    ∧ 0 < c.components.length := by
  have hw : (c.radio.toList ++ c.application.toList).length ≤ c.images.length := by simp [RootCfg.images]
  simp only [C19_component_count, RootCfg.componentList, RootCfg.withoutTop, List.mem_map, List.mem_range]
  exact ⟨fun i ⟨k, hk, e⟩ => e ▸ Nat.succ_lt_succ hk, fun i ⟨k, hk, e⟩ => e ▸ Nat.succ_lt_succ (Nat.lt_of_lt_of_le hk hw),
    Nat.succ_pos _⟩

/-- every declared component is a candidate- or installed-manifest component … -/
theorem C19_components_are_manifests (c : RootCfg) :
    ∀ comp ∈ c.components, ∃ rest, comp = .list (.str "CAND_MFST" :: rest) ∨ comp = .list (.str "INSTLD_MFST" :: rest) := by
  intro comp h
  simp only [RootCfg.components, List.mem_append, List.mem_map, List.mem_singleton] at h
  rcases h with ((h | ⟨_, _, h⟩) | ⟨_, _, h⟩) | ⟨_, _, h⟩
  · exact ⟨_, Or.inl h⟩
  · exact ⟨_, Or.inr h.symm⟩
  · exact ⟨_, Or.inr h.symm⟩
  · exact ⟨_, Or.inr h.symm⟩

/-- … and the declared dependencies are exactly index 0 and the indices of `component_list`, all of them declared -/
theorem C19_dependencies_are_components (c : RootCfg) :
    ∀ i ∈ (0 :: c.componentList), i < c.components.length := by
  intro i hi
  rcases List.mem_cons.mp hi with h | h
  · subst h; exact (C19_indices_declared c).2.2
  · exact (C19_indices_declared c).1 i h

/-- the `#name` URIs fetched by the install / candidate-verification blocks -/
def fetchedUris (c : RootCfg) : List String := c.images.map (fun n => "#" ++ n)

/-- the names of the integrated dependencies of the root description -/
def integratedNames (c : RootCfg) : List String := c.images.map (fun n => "#" ++ n)

/-- **Every fetched '#name' URI has an integrated dependency of that name** (and vice versa), whose file is the one
whose manifest digest the candidate-verification block verifies: both are `artifacts ++ name ++ ".suit"` -/
theorem C19_fetch_has_dependency (c : RootCfg) :
    fetchedUris c = integratedNames c
    ∧ ∀ n ∈ c.images,
        (verifyBlock c.artifacts n).head? = some (.dict [("suit-directive-override-parameters", .dict [
          ("suit-parameter-uri", .str ("#" ++ n)),
          ("suit-parameter-image-digest", .dict [("suit-digest-algorithm-id", .str "cose-alg-sha-256"),
            ("suit-digest-bytes", .dict [("envelope", .str (c.artifacts ++ n ++ ".suit"))])])])])
        ∧ ("#" ++ n, Obj.str (c.artifacts ++ n ++ ".suit")) ∈ c.images.map (fun n => ("#" ++ n, Obj.str (c.artifacts ++ n ++ ".suit"))) := by
  refine ⟨rfl, ?_⟩
  intro n hn
  exact ⟨rfl, List.mem_map.mpr ⟨n, hn, rfl⟩⟩

/-- **Installed-manifest class ids are those of the configured names**: radio → (radVendor, radClass),
application → (appVendor, appClass), top → the fixed Nordic top class -/
theorem C19_class_ids (c : RootCfg) (r a t : String) (hr : c.radio = some r) (ha : c.application = some a) (ht : c.top = some t) :
    c.components = [.list [.str "CAND_MFST", .int 0], installed c.radVendor c.radClass, installed c.appVendor c.appClass,
      installed "nordicsemi.com" "nRF54H20_nordic_top"] := by
  simp [RootCfg.components, hr, ha, ht]

/-- all 8 presence combinations at once: component k (k ≥ 1) is the installed manifest of the k-th present image -/
theorem C19_component_order (c : RootCfg) :
    c.components.drop 1 =
      (c.radio.toList.map (fun _ => installed c.radVendor c.radClass))
      ++ (c.application.toList.map (fun _ => installed c.appVendor c.appClass))
      ++ (c.top.toList.map (fun _ => installed "nordicsemi.com" "nRF54H20_nordic_top")) := by
  simp [RootCfg.components]

/-- top template: indices 0, 1, 2 against three declared components; fetched URIs = integrated dependencies -/
theorem C19_top (c : TopCfg) :
    ([c.secdom, c.sysctrl].map (fun n => "#" ++ n)) = ([c.secdom, c.sysctrl].map (fun n => ("#" ++ n, Obj.str (c.artifacts ++ n ++ ".suit")))).map (·.1)
    ∧ (3 : Nat) = [Obj.list [.str "CAND_MFST", .int 0], installed "nordicsemi.com" "nRF54H20_sec", installed "nordicsemi.com" "nRF54H20_sys"].length := by
  simp

end SuitVerif.Props.C19
