import SuitVerif.Extract
import SuitVerif.CborDict
/-! # C11 — payload extraction conserves payloads and leaves authenticated content intact -/
namespace SuitVerif.Props.C11
open SuitVerif SuitVerif.Extract SuitVerif.Cache

theorem tstr_beq (a b : Bytes) : ((Cbor.tstr a) == (Cbor.tstr b)) = (a == b) := by
  rw [Bool.eq_iff_iff]; simp

/-- the values of the members `names` of the map, each looked up after the earlier ones were popped -/
def payloadValues : List (Cbor × Cbor) → List Bytes → List Bytes
  | _, [] => []
  | m, name :: rest =>
    match Cbor.lookup (.tstr name) m with
    | some (.bstr v) => v :: payloadValues (mapRemove m (.tstr name)) rest
    | _ => []

/-- **Every extracted payload ends up in the cache, in order, with identical bytes**: moving the payloads `names`
out of the map is exactly `add_cache_slot` for each (name, member value) pair - so the cache is what `from_payloads`
builds for those pairs (C10 then says how it decodes) - and the map loses exactly those members. -/
theorem C11_moved (eb : Nat) :
    ∀ (names : List Bytes) (s s' : Cache.State) (m m' : List (Cbor × Cbor)),
      extractPayloads eb s m names = .ok (s', m') →
      (payloadValues m names).length = names.length
        ∧ Cache.addSlots eb s (names.zip (payloadValues m names)) = .ok s'
        ∧ m' = names.foldl (fun acc nm => mapRemove acc (.tstr nm)) m := by
  intro names
  induction names with
  | nil =>
    intro s s' m m' h
    simp only [extractPayloads, Except.ok.injEq, Prod.mk.injEq] at h
    exact ⟨rfl, by simp [payloadValues, Cache.addSlots, h.1], by simp [h.2]⟩
  | cons name rest ih =>
    intro s s' m m' h
    simp only [extractPayloads] at h
    split at h <;> try contradiction
    rename_i v hv
    split at h <;> try contradiction
    rename_i s1 hs1
    obtain ⟨hlen, hadd, hm⟩ := ih _ _ _ _ h
    refine ⟨by simp [payloadValues, hv, hlen], ?_, by simpa using hm⟩
    simp only [payloadValues, hv, List.zip_cons_cons, Cache.addSlots, hs1, bind, Except.bind]
    exact hadd

theorem extractPayloads_lookup (eb : Nat) (k : Cbor) (names : List Bytes) (s s' : Cache.State)
    (m m' : List (Cbor × Cbor)) (hk : ∀ nm ∈ names, Cbor.tstr nm ≠ k)
    (h : extractPayloads eb s m names = .ok (s', m')) : Cbor.lookup k m' = Cbor.lookup k m := by
  rw [(C11_moved eb names s s' m m' h).2.2]
  clear h
  induction names generalizing m with
  | nil => rfl
  | cons name rest ih =>
    rw [List.foldl_cons, ih _ (fun nm hn => hk nm (List.mem_cons_of_mem _ hn))]
    exact Cbor.lookup_filter_ne m (hk name List.mem_cons_self)

/-- moving payloads into the cache leaves every integer-keyed member of the envelope map untouched -/
theorem extractPayloads_keeps (eb : Nat) (n : Nat) :
    ∀ (names : List Bytes) (s s' : Cache.State) (m m' : List (Cbor × Cbor)),
      extractPayloads eb s m names = .ok (s', m') → Cbor.lookup (.uint n) m' = Cbor.lookup (.uint n) m :=
  fun names s s' m m' h => extractPayloads_lookup eb (.uint n) names s s' m m' (fun _ _ => nofun) h

theorem fillDeps_lookup (eb : Nat) (isDep isOmitted : Bytes → Bool) (k : Cbor) :
    ∀ (fuel : Nat) (s s' : Cache.State) (m m' : List (Cbor × Cbor)) (deps : List Bytes),
      (∀ d ∈ deps, Cbor.tstr d ≠ k) → fillDeps eb isDep isOmitted fuel s m deps = .ok (s', m') →
      Cbor.lookup k m' = Cbor.lookup k m := by
  intro fuel
  induction fuel with
  | zero => intro s s' m m' deps _ h; simp [fillDeps] at h
  | succ fuel ih =>
    intro s s' m m' deps hk h
    cases deps with
    | nil => cases h; rfl
    | cons d rest =>
      simp only [fillDeps] at h
      split at h <;> try contradiction
      split at h <;> try contradiction
      rw [ih _ _ _ _ _ (fun x hx => hk x (List.mem_cons_of_mem _ hx)) h]
      exact Cbor.lookup_dictSet_ne m _ (hk d List.mem_cons_self)

/-- What `fill_cache_from_envelope_data` leaves alone: every member whose key is not the name of a dependency or of an
extracted payload - the integer-keyed members and the payloads that the omit pattern keeps in place. -/
theorem fill_lookup (eb : Nat) (isDep isOmitted : Bytes → Bool) (k : Cbor)
    (hk : ∀ b, k = .tstr b → isDep b = false ∧ isOmitted b = true) (fuel : Nat) (s s' : Cache.State)
    (data out : Bytes) (h : fill eb isDep isOmitted fuel s data = .ok (s', out)) :
    ∃ t m m', loads data = some (.tag t (.map m)) ∧ out = enc (.tag t (.map m'))
      ∧ Cbor.lookup k m' = Cbor.lookup k m := by
  cases fuel with
  | zero => simp [fill] at h
  | succ fuel =>
    simp only [fill] at h
    split at h <;> try contradiction
    rename_i t m hl
    split at h <;> try contradiction
    rename_i s1 m1 he
    split at h <;> try contradiction
    rename_i s2 m2 hd
    cases h
    refine ⟨t, m, m2, hl, rfl, ?_⟩
    rw [fillDeps_lookup eb isDep isOmitted k fuel _ _ _ _ _ (fun d hmem hdk => ?dep) hd,
      extractPayloads_lookup eb k _ _ _ _ _ (fun nm hmem hnk => ?payload) he]
    case dep => simp [(hk d hdk.symm).1] at hmem
    case payload => simp [(hk nm hnk.symm).2] at hmem

/-- **All other members are byte-identical, at every level.** The output envelope of `cache_create from_envelope` is
the same tag over a map in which every integer-keyed member (manifest, authentication wrapper, severed members) is the
same value as in the input; for a dependency the statement holds again for the envelope re-embedded under its name. -/
theorem C11_untouched (eb : Nat) (isDep isOmitted : Bytes → Bool) (n : Nat) :
    ∀ (fuel : Nat),
      (∀ (s s' : Cache.State) (data out : Bytes), fill eb isDep isOmitted fuel s data = .ok (s', out) →
        ∃ t m m', loads data = some (.tag t (.map m)) ∧ out = enc (.tag t (.map m'))
          ∧ Cbor.lookup (.uint n) m' = Cbor.lookup (.uint n) m)
      ∧ (∀ (s s' : Cache.State) (m m' : List (Cbor × Cbor)) (deps : List Bytes),
          fillDeps eb isDep isOmitted fuel s m deps = .ok (s', m') → Cbor.lookup (.uint n) m' = Cbor.lookup (.uint n) m) :=
  fun fuel => ⟨fill_lookup eb isDep isOmitted (.uint n) nofun fuel,
    fun s s' m m' deps => fillDeps_lookup eb isDep isOmitted (.uint n) fuel s s' m m' deps (fun _ _ => nofun)⟩

/-- the output of `payload_extract` without replacement: the same tag over the input map without the named member;
every other member keeps its value and its position; the extracted payload is the member's value -/
theorem C11_extract_one (envelope name : Bytes) (t : Nat) (m : List (Cbor × Cbor))
    (hl : loads envelope = some (.tag t (.map m))) :
    payloadExtract envelope name none
      = .ok (enc (.tag t (.map (m.filter (fun e => !(e.1 == Cbor.tstr name))))), Cbor.lookup (.tstr name) m) := by
  simp [payloadExtract, hl, mapRemove]

/-- with a replacement the new bytes are stored under the same name (appended), nothing else differs -/
theorem C11_replace (envelope name r : Bytes) (t : Nat) (m : List (Cbor × Cbor))
    (hl : loads envelope = some (.tag t (.map m))) :
    payloadExtract envelope name (some r)
      = .ok (enc (.tag t (.map (m.filter (fun e => !(e.1 == Cbor.tstr name)) ++ [(.tstr name, .bstr r)]))),
             Cbor.lookup (.tstr name) m) := by
  simp [payloadExtract, hl, mapRemove]

/-- filtering out a text key keeps every integer-keyed member -/
theorem C11_extract_keeps (m : List (Cbor × Cbor)) (name : Bytes) (n : Nat) :
    Cbor.lookup (.uint n) (m.filter (fun e => !(e.1 == Cbor.tstr name))) = Cbor.lookup (.uint n) m :=
  Cbor.lookup_filter_ne m nofun

end SuitVerif.Props.C11
