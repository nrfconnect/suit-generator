import SuitVerif.Convert
/-! # C15 — generated key pairs match and convert emits the exact public key (keys half: glue only) -/
namespace SuitVerif.Props.C15
open SuitVerif SuitVerif.Convert

/-- **Fixed width.** For the NIST curves the emitted bytes are X || Y, each exactly `w` bytes big-endian (w = 32, 48,
66): 64, 96, 132 bytes in total, and both halves read back as the coordinates - coordinates with leading zero bytes
are the general case of the statement, not a sample. -/
theorem C15_fixed_width (w x y : Nat) (b : Bytes) (h : pubXY w x y = some b) :
    b.length = 2 * w ∧ ofBe (b.take w) = x ∧ ofBe (b.drop w) = y := by
  unfold pubXY at h
  split at h
  · next hlt => cases h; exact beBytes_pair w x y hlt.1 hlt.2
  · cases h

theorem C15_sizes : 2 * ((256 + 7) / 8) = 64 ∧ 2 * ((384 + 7) / 8) = 96 ∧ 2 * ((521 + 7) / 8) = 132 := by decide

/-- every coordinate of a point on a `key_size`-bit curve fits the width, so the bytes are always produced -/
theorem C15_total (w x y : Nat) (hx : x < 256 ^ w) (hy : y < 256 ^ w) : (pubXY w x y).isSome = true := by
  simp [pubXY, hx, hy]

/-- characters that cannot start a token -/
def blank (c : Char) : Prop := c ≠ '0'

theorem tokens_cons_ne (c : Char) (s : List Char) (h : c ≠ '0') : tokens (c :: s) = tokens s := by
  simp [tokens, h]

theorem tokens_skip (ws s : List Char) (h : ∀ c ∈ ws, c ≠ '0') : tokens (ws ++ s) = tokens s := by
  induction ws with
  | nil => rfl
  | cons c rest ih =>
    simp only [List.cons_append]
    rw [tokens_cons_ne _ _ (h c (by simp))]
    exact ih (fun c hc' => h c (by simp [hc']))

theorem tokens_tok (b : UInt8) (s : List Char) : tokens (hexTok b ++ s) = b :: tokens s := by
  have hb := b.toNat_lt
  simp only [hexTok, List.cons_append, List.nil_append, tokens,
    hexVal_hexDigit _ (show b.toNat / 16 < 16 by omega), hexVal_hexDigit _ (show b.toNat % 16 < 16 by omega),
    byte_recompose]

/-- **Tokenising the array gives back exactly the bytes**, for every byte list, every column count, every indentation
of spaces or tabs: nothing dropped, duplicated or reordered, no trailing comma needed. -/
theorem C15_format_roundtrip (cols : Nat) (ind : List Char) (hind : ∀ c ∈ ind, c ≠ '0') :
    ∀ (data : Bytes) (col : Nat), tokens (fmt cols ind col data) = data := by
  intro data
  induction data with
  | nil => intro col; rfl
  | cons b rest ih =>
    intro col
    have hpre : ∀ c ∈ (if col = 0 then ind else [' ']), c ≠ '0' := by
      split
      · exact hind
      · simp
    cases rest with
    | nil =>
      rw [fmt, List.append_assoc, tokens_skip _ _ hpre, tokens_tok, tokens_cons_ne _ _ (by decide)]
      rfl
    | cons c rest' =>
      rw [fmt, List.append_assoc, List.append_assoc, tokens_skip _ _ hpre, tokens_tok]
      simp only [List.cons_append, List.nil_append]
      rw [tokens_cons_ne _ _ (by decide)]
      split
      · rw [tokens_cons_ne _ _ (by decide), ih 0]
      · rw [ih (col + 1)]

/-- the whole array text, for any layout options -/
theorem C15_array_roundtrip (cols : Nat) (indentCount : Nat) (tab : Bool) (data : Bytes) :
    tokens (formatArray cols (List.replicate indentCount (if tab then '\t' else ' ')) data) = data := by
  unfold formatArray
  split
  · next h => rw [List.isEmpty_iff.mp h]; rfl
  · exact C15_format_roundtrip _ _ (fun c hc => by rw [List.eq_of_mem_replicate hc]; cases tab <;> decide) _ _

/-- **Layout options affect formatting only**: two option sets give arrays with the same bytes -/
theorem C15_layout_only (c1 c2 i1 i2 : Nat) (t1 t2 : Bool) (data : Bytes) :
    tokens (formatArray c1 (List.replicate i1 (if t1 then '\t' else ' ')) data)
      = tokens (formatArray c2 (List.replicate i2 (if t2 then '\t' else ' ')) data) := by
  rw [C15_array_roundtrip, C15_array_roundtrip]

/-- keys: a failing serialisation of either half means no file at all; otherwise both halves are written -/
theorem C15_keys_atomic (priv pub : Option Bytes) :
    (createKeyPair priv pub = none ↔ (priv = none ∨ pub = none))
    ∧ (∀ a b, createKeyPair priv pub = some (a, b) → priv = some a ∧ pub = some b) := by
  cases priv <;> cases pub <;> simp [createKeyPair]

example : String.ofList (formatArray 2 [' ', ' '] [1, 2, 3]) = "  0x01, 0x02,\n  0x03\n" :=
  congrArg String.ofList (by decide +kernel)

end SuitVerif.Props.C15
