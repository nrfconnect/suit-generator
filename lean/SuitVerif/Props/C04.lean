import SuitVerif.Sign
import SuitVerif.CborProofs
import SuitVerif.Except
/-! # C04 — signing attaches a verifiable COSE_Sign1 and changes nothing else

For every signature primitive `signFn` (the KMS is a parameter of the model). -/
namespace SuitVerif.Props.C04
open SuitVerif SuitVerif.Sign

/-- **fixed-width r||s.** Whenever the raw ECDSA signature is produced it is exactly `2w` bytes and its halves are
`r` and `s` - leading zero bytes are the general case of the statement, not a sample; it is produced whenever
both values fit `w` bytes (`C04_rs_total`). -/
theorem C04_rs_fixed (w r s : Nat) (b : Bytes) (h : rsEncode w r s = some b) :
    b.length = 2 * w ∧ ofBe (b.take w) = r ∧ ofBe (b.drop w) = s := by
  unfold rsEncode at h
  split at h
  · rename_i hlt
    cases h
    exact beBytes_pair w r s hlt.1 hlt.2
  · cases h

theorem C04_rs_total (w r s : Nat) (hr : r < 256 ^ w) (hs : s < 256 ^ w) : (rsEncode w r s).isSome = true := by
  simp [rsEncode, hr, hs]

theorem C04_cose_ids : Alg.es256.cose = -7 ∧ Alg.es384.cose = -35 ∧ Alg.es521.cose = -36 ∧ Alg.eddsa.cose = -8
    ∧ Alg.hashEddsa.cose = -65537 := ⟨rfl, rfl, rfl, rfl, rfl⟩

/-- **protected header.** It is the shortest-form map `{1: COSE alg, 4: bstr .cbor key-id}`; reading it back with the
strict reader gives the algorithm identifier and, inside the byte string, the key identifier - for every key
identifier in [-2^64, 2^64). -/
theorem C04_protected (alg : Alg) (keyId : Int) (h : -(2 ^ 64 : Int) ≤ keyId ∧ keyId < 2 ^ 64) :
    decodeStrict (enc (protectedMap alg keyId))
      = some (.map [(.uint 1, Cbor.ofInt alg.cose), (.uint 4, .bstr (enc (Cbor.ofInt keyId)))])
    ∧ decodeStrict (enc (Cbor.ofInt keyId)) = some (Cbor.ofInt keyId) := by
  have hk := Cbor.ofInt_wf keyId h
  have ha : (Cbor.ofInt alg.cose).wf = true := by cases alg <;> decide
  have hlen : (enc (Cbor.ofInt keyId)).length < 2 ^ 64 := Nat.lt_of_le_of_lt (Cbor.enc_ofInt_length keyId) (by decide)
  refine ⟨decodeStrict_enc _ ?_, decodeStrict_enc _ hk⟩
  simp [protectedMap, Cbor.wf, wfPairs, ha, hlen]

/-- replacing the value under an existing key keeps every other member and the order of all members -/
theorem mapSet_present (m : List (Cbor × Cbor)) (k v : Cbor) (h : m.any (fun e => e.1 == k) = true) :
    mapSet m k v = m.map (fun e => if e.1 == k then (e.1, v) else e) := by
  simp [mapSet, h]

theorem mapSet_keys (m : List (Cbor × Cbor)) (k v : Cbor) (h : m.any (fun e => e.1 == k) = true) :
    (mapSet m k v).map (·.1) = m.map (·.1) := by
  rw [mapSet_present m k v h, List.map_map]
  apply List.map_congr_left
  intro e _
  simp only [Function.comp]
  split <;> rfl

section
variable {signFn : Bytes → Option Bytes} {t : Nat} {m : List (Cbor × Cbor)} {alg : Alg} {keyId : Int} {action : Action}
  {out : Cbor} {blocks rest : List Cbor} {d : Bytes} {digest : Cbor}

theorem attach_eq (hw : wrapperList m = .ok (.bstr d :: rest)) (hd : loads d = some digest) :
    attach signFn t m alg keyId = match signFn (sigStructure (enc (protectedMap alg keyId)) digest) with
      | none => .error .valueError
      | some sig => .ok (.tag t (.map (mapSet m (.uint 2)
          (.bstr (enc (.arr (.bstr d :: rest ++ [.bstr (enc (authBlock (enc (protectedMap alg keyId)) sig))]))))))) := by
  simp only [attach, hw, hd, bind, Except.bind, pure, Except.pure]; rfl

theorem attach_ok (hw : wrapperList m = .ok (.bstr d :: rest)) (hd : loads d = some digest)
    (h : attach signFn t m alg keyId = .ok out) :
    ∃ sig, signFn (sigStructure (enc (protectedMap alg keyId)) digest) = some sig
      ∧ out = .tag t (.map (mapSet m (.uint 2)
          (.bstr (enc (.arr (.bstr d :: rest ++ [.bstr (enc (authBlock (enc (protectedMap alg keyId)) sig))])))))) := by
  rw [attach_eq hw hd] at h
  split at h
  · cases h
  · exact ⟨_, ‹_›, (Except.ok.inj h).symm⟩

theorem attach_shape (h : attach signFn t m alg keyId = .ok out) : ∃ v, out = .tag t (.map (mapSet m (.uint 2) v)) := by
  simp only [attach] at h
  obtain ⟨blocks1, -, h⟩ := Except.bind_eq_ok.mp h
  split at h
  · obtain ⟨digest, -, h⟩ := Except.bind_eq_ok.mp h
    split at h
    · cases h
    · exact ⟨_, (Except.ok.inj h).symm⟩
  · cases h
  · cases h

theorem signEnvelope_unsigned (hw : wrapperList m = .ok blocks) (hns : firstSign1 blocks = some none) :
    signEnvelope signFn (.tag t (.map m)) alg keyId action = attach signFn t m alg keyId := by
  simp only [signEnvelope, hw, hns, bind, Except.bind]

theorem signEnvelope_signed {old : Cbor} (hw : wrapperList m = .ok blocks) (hs : firstSign1 blocks = some (some old)) :
    signEnvelope signFn (.tag t (.map m)) alg keyId action = match action with
      | .error => .error .signerError
      | .append => .error .notImplemented
      | .skip => .ok (.tag t (.map m))
      | .removeOld => attach signFn t (mapSet m (.uint 2) (.bstr (enc (.arr (removeFirst old blocks))))) alg keyId := by
  simp only [signEnvelope, hw, hs, bind, Except.bind]; rfl

end

/-- **Exactly one block is appended and nothing else changes.** For an envelope `tag t {…}` whose wrapper holds no
COSE_Sign1 yet, every action and every signature primitive: the output is the same tag over the same map in which only
the value of key 2 is replaced, by the same wrapper list plus one element `bstr .cbor #6.18([protected, {}, nil, sig])`
where `protected = {1: alg, 4: bstr .cbor keyId}` and `sig` is the primitive applied to the Sig_structure
`["Signature1", protected, h'', bstr .cbor digest]` of the envelope's own digest. -/
theorem C04_appended (signFn : Bytes → Option Bytes) (t : Nat) (m : List (Cbor × Cbor)) (alg : Alg) (keyId : Int)
    (action : Action) (out : Cbor) (blocks : List Cbor) (d : Bytes) (rest : List Cbor) (digest : Cbor)
    (hw : wrapperList m = .ok blocks) (hb : blocks = .bstr d :: rest) (hd : loads d = some digest)
    (hns : firstSign1 blocks = some none)
    (h : signEnvelope signFn (.tag t (.map m)) alg keyId action = .ok out) :
    ∃ sig, signFn (sigStructure (enc (protectedMap alg keyId)) digest) = some sig
      ∧ out = .tag t (.map (mapSet m (.uint 2)
          (.bstr (enc (.arr (blocks ++ [.bstr (enc (authBlock (enc (protectedMap alg keyId)) sig))])))))) := by
  rw [signEnvelope_unsigned hw hns] at h
  subst hb
  exact attach_ok hw hd h

/-- **The block verifies.** If the signature primitive is `sign sk` of a scheme with `verify pk msg (sign sk msg)`,
the appended signature verifies under `pk` over the Sig_structure built from the block's own protected header and
the envelope's digest. -/
theorem C04_verifies {SK PK : Type} (sign : SK → Bytes → Bytes) (verify : PK → Bytes → Bytes → Bool) (sk : SK) (pk : PK)
    (hcorrect : ∀ msg, verify pk msg (sign sk msg) = true)
    (t : Nat) (m : List (Cbor × Cbor)) (alg : Alg) (keyId : Int) (action : Action) (out : Cbor)
    (blocks : List Cbor) (d : Bytes) (rest : List Cbor) (digest : Cbor)
    (hw : wrapperList m = .ok blocks) (hb : blocks = .bstr d :: rest) (hd : loads d = some digest)
    (hns : firstSign1 blocks = some none)
    (h : signEnvelope (fun msg => some (sign sk msg)) (.tag t (.map m)) alg keyId action = .ok out) :
    ∃ sig, out = .tag t (.map (mapSet m (.uint 2)
          (.bstr (enc (.arr (blocks ++ [.bstr (enc (authBlock (enc (protectedMap alg keyId)) sig))]))))))
      ∧ verify pk (sigStructure (enc (protectedMap alg keyId)) digest) sig = true := by
  obtain ⟨sig, hs, ho⟩ := C04_appended _ t m alg keyId action out blocks d rest digest hw hb hd hns h
  cases hs
  exact ⟨_, ho, hcorrect _⟩

/-- a refusing KMS (wrong key type, missing key) yields an error, never a partially signed envelope -/
theorem C04_refused (t : Nat) (m : List (Cbor × Cbor)) (alg : Alg) (keyId : Int) (action : Action)
    (blocks : List Cbor) (d : Bytes) (rest : List Cbor) (digest : Cbor)
    (hw : wrapperList m = .ok blocks) (hb : blocks = .bstr d :: rest) (hd : loads d = some digest)
    (hns : firstSign1 blocks = some none) :
    signEnvelope (fun _ => none) (.tag t (.map m)) alg keyId action = .error .valueError := by
  subst hb
  rw [signEnvelope_unsigned hw hns, attach_eq hw hd]

end SuitVerif.Props.C04
