import SuitVerif.Update
import SuitVerif.Except
import SuitVerif.IHexText
/-! # C16 — update-candidate info and DFU partition images describe the envelope file -/
namespace SuitVerif.Props.C16
open SuitVerif SuitVerif.Update SuitVerif.IHex

/-- The record is magic, 1, partition address, envelope size, then 2n zero words, all little-endian 32-bit;
reading the four fields back gives exactly those values. For all addresses and sizes below 2^32, any cache count. -/
theorem C16_record (dfuAddr size caches : Nat) (r : Bytes) (h : candidateInfo dfuAddr size caches = .ok r) :
    r.length = 16 + 8 * caches
    ∧ ofLe (r.take 4) = 0x55AA55AA
    ∧ ofLe ((r.drop 4).take 4) = 1
    ∧ ofLe ((r.drop 8).take 4) = dfuAddr
    ∧ ofLe ((r.drop 12).take 4) = size
    ∧ r.drop 16 = List.replicate (8 * caches) 0 := by
  unfold candidateInfo at h
  split at h
  · cases h
  · cases h
    obtain ⟨f1, f2, f3, f4, f5⟩ := fields4 (leBytes 4 magic) (leBytes 4 1) (leBytes 4 dfuAddr) (leBytes 4 size) (List.replicate (8 * caches) 0)
    simp only [leBytes_length, Nat.reduceAdd] at f1 f2 f3 f4 f5
    rw [f1, f2, f3, f4, f5]
    exact ⟨by simp [leBytes_length]; omega, ofLe_leBytes 4 magic (by decide), ofLe_leBytes 4 1 (by decide),
      ofLe_leBytes 4 dfuAddr (by omega), ofLe_leBytes 4 size (by omega), rfl⟩

theorem candidateInfo_ne_nil (dfuAddr size caches : Nat) (r : Bytes) (h : candidateInfo dfuAddr size caches = .ok r) : r ≠ [] := by
  intro h0
  have := (C16_record dfuAddr size caches r h).1
  simp [h0] at this
  omega

/-- values that do not fit 32 bits are rejected -/
theorem C16_record_rejects (dfuAddr size caches : Nat) (h : 2 ^ 32 ≤ dfuAddr ∨ 2 ^ 32 ≤ size) :
    candidateInfo dfuAddr size caches = .error .structError := by
  unfold candidateInfo; simp [h]

/-- the storage image is only the record, at the update-candidate-info address -/
theorem C16_storage_image (uciAddr dfuAddr size caches : Nat) (img : Image)
    (h : storageImage uciAddr dfuAddr size caches = .ok img) :
    ∃ r, candidateInfo dfuAddr size caches = .ok r ∧ img = [(uciAddr, r)] ∧ uciAddr + r.length ≤ 2 ^ 32 := by
  obtain ⟨r, hr, h⟩ := Except.bind_eq_ok.mp h
  split at h
  · cases h
  · cases h
    exact ⟨r, hr, rfl, by omega⟩

theorem dfuImage_ok {dfuAddr : Nat} {env : Bytes} {img : Image} (h : dfuImage dfuAddr env = .ok img) :
    dfuAddr + env.length ≤ 2 ^ 32 ∧ img = place dfuAddr env := by
  unfold dfuImage at h
  split at h
  · cases h
  · cases h; exact ⟨by omega, rfl⟩

/-- the DFU partition image is exactly the envelope file's bytes starting at the partition address:
address `dfuAddr + i` holds byte `i` for every `i`, and nothing else is defined. -/
theorem C16_dfu_image (dfuAddr : Nat) (env : Bytes) (img : Image) (h : dfuImage dfuAddr env = .ok img) :
    (∀ i, i < env.length → Image.get img (dfuAddr + i) = env[i]?)
    ∧ (∀ a, (a < dfuAddr ∨ dfuAddr + env.length ≤ a) → Image.get img a = none) := by
  obtain ⟨-, rfl⟩ := dfuImage_ok h
  constructor
  · intro i hi
    simp [place, Image.get, hi]
  · intro a ha
    simp only [place, Image.get]
    have : ¬ (dfuAddr ≤ a ∧ a < dfuAddr + env.length) := by omega
    simp [this]

/-- model ⟹ spec: the storage image the model produces satisfies `checkStorage` (the predicate the harness
also evaluates on the file the real tool wrote) -/
theorem C16_storage_checks (uciAddr dfuAddr size caches : Nat) (img : Image)
    (h : storageImage uciAddr dfuAddr size caches = .ok img) :
    checkStorage img uciAddr dfuAddr size caches = true := by
  obtain ⟨r, hr, himg, _⟩ := C16_storage_image uciAddr dfuAddr size caches img h
  obtain ⟨h1, h2, h3, h4, h5, h6⟩ := C16_record dfuAddr size caches r hr
  subst himg
  simp [checkStorage, canon_single _ _ (candidateInfo_ne_nil dfuAddr size caches r hr), h1, h2, h3, h4, h5, h6]

/-- model ⟹ spec for the DFU partition image -/
theorem C16_dfu_checks (dfuAddr : Nat) (env : Bytes) (img : Image) (h : dfuImage dfuAddr env = .ok img) :
    checkDfu img dfuAddr env = true := by
  obtain ⟨-, rfl⟩ := dfuImage_ok h
  by_cases he : env = []
  · subst he; simp [checkDfu, place, canon_single_empty]
  · simp [checkDfu, place, canon_single _ _ he]

/-! ### file level: the text of the hex files (writer model `IHex.writeText` of the third-party `intelhex` writer, `IHexWrite.lean`)

The statements above are about the memory image a file denotes; these two carry them to the characters of the file: the strict reader, on
the text the writer model produces for the image, gives back exactly the image - so `checkStorage` / `checkDfu` hold of what is read from the
file (for every address and size the model accepts). -/

/-- the DFU partition file, as text, reads back as exactly the envelope file's bytes at the partition address -/
theorem C16_dfu_file (dfuAddr : Nat) (env : Bytes) (img : Image) (h : dfuImage dfuAddr env = .ok img) :
    ∃ img', IHex.read (IHex.writeText dfuAddr env) = some img' ∧ checkDfu img' dfuAddr env = true := by
  have hc := C16_dfu_checks dfuAddr env img h
  obtain ⟨hb, rfl⟩ := dfuImage_ok h
  refine ⟨_, IHex.read_writeText dfuAddr env hb, ?_⟩
  split
  · subst env; rfl
  · exact hc

/-- the storage file, as text, reads back as exactly the update-candidate record at its address -/
theorem C16_storage_file (uciAddr dfuAddr size caches : Nat) (img : Image)
    (h : storageImage uciAddr dfuAddr size caches = .ok img) :
    ∃ r, candidateInfo dfuAddr size caches = .ok r ∧ IHex.read (IHex.writeText uciAddr r) = some img
      ∧ checkStorage img uciAddr dfuAddr size caches = true := by
  have hc := C16_storage_checks uciAddr dfuAddr size caches img h
  obtain ⟨r, hr, himg, hb⟩ := C16_storage_image uciAddr dfuAddr size caches img h
  refine ⟨r, hr, ?_, hc⟩
  rw [IHex.read_writeText uciAddr r hb, himg, if_neg (candidateInfo_ne_nil dfuAddr size caches r hr)]

example : (candidateInfo 0x0E100000 1234 2).toOption.map List.length = some 32 := by decide

/-- a concrete file: 18 bytes across a 64 KiB border - the text of the file (kernel evaluation of the writer model; compared as
character lists, which the literal is for the kernel: comparing the two `String`s would have it encode both to UTF-8) -/
example : IHex.writeText 65530 ((List.range 18).map UInt8.ofNat) =
    ":020000040000FA\n:06FFFA00000102030405F2\n:020000040001F9\n:0C000000060708090A0B0C0D0E0F10116A\n:00000001FF\n" :=
  congrArg String.ofList (by decide +kernel)

end SuitVerif.Props.C16
