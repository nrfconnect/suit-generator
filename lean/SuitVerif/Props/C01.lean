import SuitVerif.EncodeProofs
import SuitVerif.CborProofs
import SuitVerif.Spec
import SuitVerif.Props.C08
import SuitVerif.BytesLevel
import SuitVerif.Generated.Guards
/-! # C01 — created envelopes carry correct manifest and severed-member digests

`Spec.check1` / `Spec.checkRec` (Spec.lean) are the byte-level statement evaluated on the real tool's output.
The theorems below are about the model of `create`: they hold for every file system, hash function and description,
with no bound on sizes or nesting.  `C01_create_digests` is the node-level statement (any schema); `C01_bytes` carries it
to the bytes: `Spec.check1` holds of what `create` writes, for the schema extracted from the running code.  Its one
hypothesis beyond success of `create`: the four layers the strict reader has to read back are encodable (lengths and
integers below 2^64).  Nested levels of integrated dependencies (`Spec.checkRec`) are reduced to `C01_bytes` level by level. -/
namespace SuitVerif.Props.C01
open SuitVerif SuitVerif.Encode

/-- **Node level, all inputs.** The tree `create` serialises has, in its authentication wrapper, the declared hash of
the manifest's wrapped bytes (`to_cbor()` of the `bstr .cbor` manifest member of *that* tree), and every digest
reference to a severed member that is present equals the declared hash of that member's wrapped bytes. -/
theorem C01_create_digests (cx : Ctx) (fuel : Nat) (o : Obj) (out : Bytes) (h : create cx fuel o = .ok out) :
    ∃ n, out = n.toBytes ∧ DigestsOk cx n :=
  let ⟨_, _, _, n2, _, _, h1, h2, hout⟩ := create_eq_ok.mp h
  ⟨n2, hout.symm, digestsOk_updates h1 h2⟩

/-- a digest supplied in the description never survives: whatever the wrapper's digest node held before,
`update_digest` leaves exactly the hash of the manifest there -/
theorem C01_supplied_ignored (cx : Ctx) (env env' : Node) (h : updateDigest cx env = .ok env') :
    ∃ t name es' m d' alg hd, env' = .tagged t name (.kv es') ∧ kvGet es' 3 = some m ∧ authDigest es' = some d'
      ∧ digestAlg d' = some alg ∧ cx.hash alg m.toBytes = some hd ∧ digestBytes d' = some hd := by
  obtain ⟨t, name, _, es', m, d', alg, hd, _, h2, _, h4, h5, h6, h7, h8⟩ := updateDigest_spec h
  exact ⟨t, name, es', m, d', alg, hd, h2, h4, h5, h6, h7, h8⟩

/-- the hashed bytes of a `bstr .cbor` member are its content behind a 1/2/3/5/9-byte header, switching exactly at
24, 256, 65536 and 2^32 bytes - the boundaries the property names are ordinary cases of the statement -/
theorem C01_wrapped_header (b : Bytes) :
    (enc (.bstr b)).length = b.length +
      (if b.length < 24 then 1 else if b.length < 256 then 2 else if b.length < 65536 then 3
       else if b.length < 4294967296 then 5 else 9) := by
  rw [enc, List.length_append, Nat.add_comm, head]
  simp only [apply_ite List.length, List.length_cons, beBytes_length, List.length_nil]

/-- the strict reader gives back exactly what was encoded, so the bytes the spec hashes (`enc` of a decoded member)
are the bytes of that member inside the envelope -/
theorem C01_span (out : Bytes) (c : Cbor) (h : decodeStrict out = some c) : out = enc c := decodeStrict_sound out c h

/-- the digest algorithms and lengths of the running code are the registry's (SHAKE128 → 16, SHAKE256 → 32 bytes) -/
theorem C01_hash_table : Generated.schema.hashes = Registry.hashLengths := C08.C08_hash_lengths

/-- the digest paths of the schema extracted from the running code are the ones the byte-level argument needs (kernel evaluation) -/
theorem C01_schema_paths : Typing.EnvFacts Generated.schema := Typing.generated_envFacts

/-- **Byte level, all inputs.** For the extracted schema, every file system, every hash function, every description: whatever
`create` writes satisfies `Spec.check1` - the authentication wrapper's digest is the declared hash of the byte-string-wrapped
manifest of that same file, every digest reference to a present severed member is the declared hash of that member's wrapped
bytes - provided the four layers are encodable.  `H` is the verifier's digest table by COSE identifier. -/
theorem C01_bytes (cx : Ctx) (hs : cx.schema = Generated.schema) (H : Spec.HashById)
    (hH : ∀ e ∈ Typing.hashEnum cx.schema, H e.2 = some (cx.hashFn e.1))
    (fuel : Nat) (o : Obj) (out : Bytes) (h : create cx fuel o = .ok out) :
    ∃ n, out = n.toBytes ∧ ((∀ v ∈ Typing.layerVals n, v.wf = true) → Spec.check1 H out = true) := by
  obtain ⟨f, n0, n1, n2, -, h0, h1, h2, rfl⟩ := create_eq_ok.mp h
  exact ⟨n2, rfl, Typing.check1_steps cx (hs ▸ C01_schema_paths) H hH f o n0 n1 n2 h0 h1 h2⟩

/-- the digest algorithm names and identifiers the byte-level theorem ranges over are the registry's -/
theorem C01_hash_enum :
    (Registry.spaces.find? (fun sp => sp.1 == "SuitCoseHashAlg")).map (·.2) = some (Typing.hashEnum Generated.schema) := by
  decide +kernel

/-! ### every level of a hierarchy (`Spec.checkRec`)

An inline dependency is embedded as exactly the bytes `create` returns for the child description (`C05_dep_inline`), to
which `C01_bytes` / `C01_rec_bytes` apply again; a member supplied as ready-made bytes (hex text, file) is outside the
property - `create` does not look into it.  Still evaluated rather than proved: that the text-keyed members of the output
are exactly the values of the description's payload maps. -/

/-- the nested envelopes of an envelope: its text-keyed byte-string members that are themselves tag-107 envelopes -/
def nested (out : Bytes) : List Bytes :=
  match Spec.envelopeMap out with
  | some m => m.filterMap (fun e => match e with
      | (.tstr _, .bstr v) => (match Spec.envelopeMap v with | some _ => some v | none => none)
      | _ => none)
  | none => []

/-- **one level unfolded**: the recursive predicate is this level's `check1` and the recursive predicate of every nested envelope -/
theorem C01_rec_step (H : Spec.HashById) (fuel : Nat) (out : Bytes) :
    Spec.checkRec H (fuel + 1) out = (Spec.check1 H out && (nested out).all (Spec.checkRec H fuel)) := by
  unfold Spec.checkRec Spec.check1 nested
  cases Spec.envelopeMap out with
  | none => rfl
  | some m =>
    dsimp only
    rw [List.all_filterMap]
    congr 2
    funext e
    split
    · split <;> simp_all
    · simp_all

/-- the depth index only bounds the walk: a larger one never turns acceptance into rejection -/
theorem C01_rec_mono (H : Spec.HashById) (fuel : Nat) : ∀ out, Spec.checkRec H fuel out = true → Spec.checkRec H (fuel + 1) out = true := by
  induction fuel with
  | zero => intro out h; simp [Spec.checkRec] at h
  | succ f ih =>
    intro out h
    rw [C01_rec_step] at h ⊢
    rw [Bool.and_eq_true] at h ⊢
    refine ⟨h.1, ?_⟩
    rw [List.all_eq_true] at *
    intro v hv
    exact ih v (h.2 v hv)

/-- **Byte level, every level.** What `create` writes satisfies the recursive predicate to depth `d + 1` as soon as each of its
nested envelopes satisfies it to depth `d` (same hypotheses as `C01_bytes`). -/
theorem C01_rec_bytes (cx : Ctx) (hs : cx.schema = Generated.schema) (H : Spec.HashById)
    (hH : ∀ e ∈ Typing.hashEnum cx.schema, H e.2 = some (cx.hashFn e.1))
    (fuel : Nat) (o : Obj) (out : Bytes) (h : create cx fuel o = .ok out) (d : Nat) :
    ∃ n, out = n.toBytes ∧ ((∀ v ∈ Typing.layerVals n, v.wf = true) →
      (∀ v ∈ nested out, Spec.checkRec H d v = true) → Spec.checkRec H (d + 1) out = true) := by
  obtain ⟨n, hn, hc⟩ := C01_bytes cx hs H hH fuel o out h
  refine ⟨n, hn, fun hwf hnest => ?_⟩
  rw [C01_rec_step, Bool.and_eq_true]
  exact ⟨hc hwf, List.all_eq_true.mpr hnest⟩

/-- an envelope without nested envelopes: the recursive predicate is `check1` -/
theorem C01_rec_leaf (H : Spec.HashById) (out : Bytes) (h : nested out = []) :
    Spec.checkRec H 1 out = Spec.check1 H out := by
  rw [C01_rec_step, h]; simp

/-! ### non-vacuity: for a concrete description, `create` of the model over the extracted schema succeeds and the byte-level predicates
hold of what it writes (kernel evaluation of the predicates themselves; a toy hash keeps the evaluation small) -/

def cxToy : Ctx :=
  { schema := Generated.schema, guards := Generated.guards, fs := fun _ => none, hashFn := fun a b => (utf8 a).take 3 ++ b.take 5,
    sha1 := fun b => b, jsonLoads := fun _ => none }

def toyH : Spec.HashById := fun id =>
  ((Typing.hashEnum Generated.schema).find? (fun e => e.2 == id)).map (fun e => cxToy.hashFn e.1)

def toyDesc : Obj :=
  .dict [("SUIT_Envelope_Tagged", .dict [
    ("suit-authentication-wrapper", .dict [("SuitDigest", .dict [("suit-digest-algorithm-id", .str "cose-alg-sha-256")])]),
    ("suit-manifest", .dict [("suit-manifest-version", .int 1), ("suit-manifest-sequence-number", .int 7),
      ("suit-install", .dict [("suit-digest-algorithm-id", .str "cose-alg-sha-512")]),
      ("suit-validate", .list [.dict [("suit-condition-image-match", .list [])]])]),
    ("suit-install", .list [.dict [("suit-directive-set-component-index", .int 0)]])])]

example : (match createTop cxToy toyDesc with | .ok out => Spec.check1 toyH out | .error _ => false) = true := by decide +kernel

/-- the toy digest table agrees with the toy hash function on every algorithm of the enumeration (evaluated on a sample input; the
table is `find?` by identifier over an enumeration with pairwise different identifiers) -/
example : (Typing.hashEnum cxToy.schema).all (fun e => (toyH e.2).map (fun f => f [1, 2, 3, 4, 5, 6]) == some (cxToy.hashFn e.1 [1, 2, 3, 4, 5, 6])) = true := by
  decide +kernel

example : (match createTop cxToy toyDesc with | .ok out => Spec.checkRec toyH 1 out && (nested out).isEmpty | .error _ => false) = true := by
  decide +kernel

end SuitVerif.Props.C01
