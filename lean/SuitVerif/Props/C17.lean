import SuitVerif.DecodeProofs
import SuitVerif.Generated.Schema
import SuitVerif.Generated.Guards
/-! # C17 — parsing untrusted bytes fails cleanly (logic part; time, memory and stack are runtime) -/
namespace SuitVerif.Props.C17
open SuitVerif SuitVerif.Py SuitVerif.Decode

/-- **Closure.** With the four guards in place, `from_cbor` never lets an internal error (IndexError, TypeError,
KeyError, …) escape: the outcome is a node, a ValueError, a SUITError or the model's own `fuel` / `model`.  For *every* schema,
class, recursion budget and byte string - hence independent of how faithfully the tables were extracted. -/
theorem C17_closed (s : Schema) (fuel : Nat) (c : Cls) (b : Bytes) :
    Clean (fromBytes allGuards s fuel c b) := fromBytes_clean s fuel c b

/-- the guards of the running code, as probed by the translator on this run, are all in place … -/
theorem C17_guards_all : Generated.guards = allGuards := by decide

/-- … so the envelope parser of the current tree is clean on every input: `from_cbor(b).to_obj()` -/
theorem C17_parse_clean (b : Bytes) : Clean (parse Generated.guards Generated.schema b) :=
  C17_guards_all ▸ clean_of_admitted (admitted_map ((admittedAt ..).bytes ..))

/-- `validate_cbor` rejects a top-level string / array / map whose 1-, 2-, 4- or 8-byte length field exceeds
the size of the input, before cbor2 is asked to allocate it -/
theorem C17_validate (h : UInt8) (rest : Bytes)
    (hty : 1 < h.toNat / 32 ∧ h.toNat / 32 < 6) (hai : 23 < h.toNat % 32 ∧ h.toNat % 32 < 28)
    (hlen : aiWidth (h.toNat % 32) ≤ rest.length)
    (hbig : ofBe (rest.take (aiWidth (h.toNat % 32))) > (h :: rest).length) :
    validate (h :: rest) = false ∧ deser (h :: rest) = .error .valueError := by
  have hne : ofBe (rest.take (aiWidth (h.toNat % 32))) ≠ 0 := by omega
  have hv : validate (h :: rest) = false := by
    simpa [validate, hty, hai, Nat.not_lt.mpr hlen, hne] using hbig
  exact ⟨hv, by simp [deser, hv]⟩

/-- the empty input is rejected -/
theorem C17_empty : deser [] = .error .valueError := rfl

/-! Each guard is needed: without it a small schema and input let an internal error escape
(these are the shapes of findings F5a-F5d, fixed in /repo by one `fix:` commit each). -/

def sTuple : Schema := ⟨[("T", .tupleNamed [("a", 1)]), ("U", .uint)], 0, 0, []⟩
theorem C17_needs_tupleIndex :
    cleanB (fromBytes ⟨false, true, true, true⟩ sTuple 5 0 [0x80]) = false := by decide +kernel

def sKv : Schema := ⟨[("K", .keyValue [⟨"a", 1, 1, false⟩] none), ("U", .uint)], 0, 0, []⟩
theorem C17_needs_embeddedNone :
    cleanB (fromBytes ⟨true, false, true, true⟩ sKv 5 0 [0xA1, 0x18, 0x63, 0x01]) = false := by decide +kernel

def sBits : Schema := ⟨[("B", .bitfield 1 8), ("U", .uint)], 0, 0, []⟩
theorem C17_needs_bitfieldType :
    cleanB (fromBytes ⟨true, true, false, true⟩ sBits 5 0 [0x61, 0x78]) = false := by decide +kernel

def sEnc : Schema := ⟨[("E", .encInfoExt)], 0, 0, []⟩
theorem C17_needs_encInfoFromCbor :
    cleanB (fromBytes ⟨true, true, true, false⟩ sEnc 5 0 [0x00]) = false := by decide +kernel

/-- non-vacuity: a well-formed one-element tuple parses -/
example : (fromBytes allGuards sTuple 5 0 [0x81, 0x05]).toOption.isSome = true := by decide +kernel

end SuitVerif.Props.C17
