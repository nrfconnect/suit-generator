import SuitVerif.Props.C04
import SuitVerif.CborDict
/-! # C09 — signing policy: already-signed action, key match, recursive configuration -/
namespace SuitVerif.Props.C09
open SuitVerif SuitVerif.Sign

/-- already signed + `error`: refused (the CLI writes the output only after signing returned) -/
theorem C09_error (signFn : Bytes → Option Bytes) (t : Nat) (m : List (Cbor × Cbor)) (alg : Alg) (keyId : Int)
    (blocks : List Cbor) (old : Cbor) (hw : wrapperList m = .ok blocks) (hs : firstSign1 blocks = some (some old)) :
    signEnvelope signFn (.tag t (.map m)) alg keyId .error = .error .signerError :=
  C04.signEnvelope_signed hw hs

/-- already signed + `skip`: the envelope is returned unchanged and the KMS is never consulted -/
theorem C09_skip (signFn : Bytes → Option Bytes) (t : Nat) (m : List (Cbor × Cbor)) (alg : Alg) (keyId : Int)
    (blocks : List Cbor) (old : Cbor) (hw : wrapperList m = .ok blocks) (hs : firstSign1 blocks = some (some old)) :
    signEnvelope signFn (.tag t (.map m)) alg keyId .skip = .ok (.tag t (.map m)) :=
  C04.signEnvelope_signed hw hs

/-- `remove-old` on a singly signed envelope `[digest, old]`: the result's only signature is the new one -/
theorem C09_remove_old (signFn : Bytes → Option Bytes) (t : Nat) (m : List (Cbor × Cbor)) (alg : Alg) (keyId : Int)
    (d : Bytes) (old digest : Cbor) (out : Cbor)
    (hw : wrapperList m = .ok [.bstr d, old]) (hs : firstSign1 [.bstr d, old] = some (some old))
    (hne : (Cbor.bstr d == old) = false) (hold : (old == old) = true)
    (hw1 : wrapperList (mapSet m (.uint 2) (.bstr (enc (.arr [.bstr d])))) = .ok [.bstr d])
    (hd : loads d = some digest)
    (h : signEnvelope signFn (.tag t (.map m)) alg keyId .removeOld = .ok out) :
    ∃ sig, signFn (sigStructure (enc (protectedMap alg keyId)) digest) = some sig
      ∧ out = .tag t (.map (mapSet (mapSet m (.uint 2) (.bstr (enc (.arr [.bstr d])))) (.uint 2)
          (.bstr (enc (.arr [.bstr d, .bstr (enc (authBlock (enc (protectedMap alg keyId)) sig))]))))) := by
  have hrm : removeFirst old [.bstr d, old] = [.bstr d] := by
    simp only [removeFirst, hne, hold, if_true, Bool.false_eq_true, if_false]
  rw [C04.signEnvelope_signed hw hs] at h
  simp only [hrm] at h
  simpa only [List.cons_append, List.nil_append] using C04.attach_ok hw1 hd h

/-- `append` is not implemented: refused -/
theorem C09_append (signFn : Bytes → Option Bytes) (t : Nat) (m : List (Cbor × Cbor)) (alg : Alg) (keyId : Int)
    (blocks : List Cbor) (old : Cbor) (hw : wrapperList m = .ok blocks) (hs : firstSign1 blocks = some (some old)) :
    signEnvelope signFn (.tag t (.map m)) alg keyId .append = .error .notImplemented :=
  C04.signEnvelope_signed hw hs

/-- key type vs algorithm: ES256/384/521 need the P-256/384/521 key, EdDSA and HashEdDSA an Ed25519 / Ed448 key;
every other combination is refused -/
theorem C09_keymatch :
    ∀ k a, keyMatches k a = true ↔
      (k = .p256 ∧ a = .es256) ∨ (k = .p384 ∧ a = .es384) ∨ (k = .p521 ∧ a = .es521)
      ∨ ((k = .ed25519 ∨ k = .ed448) ∧ (a = .eddsa ∨ a = .hashEddsa)) := by
  intro k a; cases k <;> cases a <;> simp [keyMatches]

/-- an envelope marked omit-signing without dependencies is returned unchanged, whatever the KMS would do and
without any key -/
theorem C09_omit_leaf (signFn : String → Alg → Bytes → Option Bytes) (fuel : Nat) (t : Nat) (m : List (Cbor × Cbor))
    (alg : Option Alg) (action : Option Action) (inh : Alg) (hf : 0 < fuel) :
    recursiveSign signFn (fuel + 1) (.tag t (.map m)) (.mk true none none alg action []) inh = .ok (.tag t (.map m)) := by
  obtain ⟨f, rfl⟩ : ∃ f, fuel = f + 1 := ⟨fuel - 1, by omega⟩
  simp [recursiveSign, signDeps, bind, Except.bind, pure, Except.pure]

/-- signing is required but no key name is configured: refused, whatever the key id -/
theorem C09_key_required (signFn : String → Alg → Bytes → Option Bytes) (fuel : Nat) (env : Cbor)
    (keyId : Option Int) (alg : Option Alg) (action : Option Action) (deps : List (String × Cfg)) (inh : Alg) :
    recursiveSign signFn (fuel + 1) env (.mk false none keyId alg action deps) inh = .error .valueError := by
  simp [recursiveSign]

theorem loadDependency_cases (m : List (Cbor × Cbor)) (name : String) :
    loadDependency m name = .error .valueError ∨
      ∃ b mm, Cbor.lookup (Cbor.text name) m = some (.bstr b) ∧ loads b = some (.tag 107 (.map mm))
        ∧ loadDependency m name = .ok (.tag 107 (.map mm)) := by
  unfold loadDependency
  split
  · exact .inl rfl
  · split
    · exact .inl rfl
    · exact .inr ⟨_, _, ‹_›, ‹_›, rfl⟩
    · exact .inl rfl
  · exact .inl rfl

/-- a named dependency that is absent, is not a byte string or is not an envelope is refused -/
theorem C09_dependency_checked (m : List (Cbor × Cbor)) (name : String) :
    (Cbor.lookup (Cbor.text name) m = none → loadDependency m name = .error .valueError)
    ∧ (∀ v, Cbor.lookup (Cbor.text name) m = some v → (∀ b, v ≠ .bstr b) → loadDependency m name = .error .valueError)
    ∧ (∀ b, Cbor.lookup (Cbor.text name) m = some (.bstr b) → (∀ t v, loads b ≠ some (.tag t v)) →
        loadDependency m name = .error .valueError) := by
  rcases loadDependency_cases m name with he | ⟨b, mm, hb, hl, -⟩
  · exact ⟨fun _ => he, fun _ _ _ => he, fun _ _ _ => he⟩
  · refine ⟨fun h => ?_, fun v h hv => ?_, fun b' h hb' => ?_⟩ <;> cases hb.symm.trans h
    · exact absurd rfl (hv b)
    · exact absurd hl (hb' _ _)

/-- what is accepted as a dependency is an envelope: CBOR tag 107 of a map (a tagged array, another tag number, any other item is refused -
also under omit-signing, where nothing else would look at it) -/
theorem C09_dependency_is_envelope (m : List (Cbor × Cbor)) (name : String) (dep : Cbor) (h : loadDependency m name = .ok dep) :
    ∃ b mm, Cbor.lookup (Cbor.text name) m = some (.bstr b) ∧ loads b = some (.tag 107 (.map mm)) ∧ dep = .tag 107 (.map mm) := by
  rcases loadDependency_cases m name with he | ⟨b, mm, hb, hl, ho⟩
  · cases he.symm.trans h
  · exact ⟨b, mm, hb, hl, Except.ok.inj (h.symm.trans ho)⟩

/-! ### nothing but the wrapper and the named dependencies changes -/

theorem signEnvelope_lookup {signFn : Bytes → Option Bytes} {t : Nat} {m : List (Cbor × Cbor)} {alg : Alg} {keyId : Int}
    {action : Action} {out : Cbor} (h : signEnvelope signFn (.tag t (.map m)) alg keyId action = .ok out) :
    ∃ m', out = .tag t (.map m') ∧ ∀ k, Cbor.uint 2 ≠ k → Cbor.lookup k m' = Cbor.lookup k m := by
  simp only [signEnvelope] at h
  obtain ⟨blocks, -, h⟩ := Except.bind_eq_ok.mp h
  split at h
  · cases h
  · obtain ⟨v, rfl⟩ := C04.attach_shape h
    exact ⟨_, rfl, fun k hk => Cbor.lookup_dictSet_ne m v hk⟩
  · cases action
    · cases h
    · obtain ⟨v, rfl⟩ := C04.attach_shape h
      exact ⟨_, rfl, fun k hk => (Cbor.lookup_dictSet_ne _ v hk).trans (Cbor.lookup_dictSet_ne m _ hk)⟩
    · cases h
      exact ⟨m, rfl, fun _ _ => rfl⟩
    · cases h

/-- signing one level touches the authentication wrapper only: every other integer-keyed member, in particular the
manifest (key 3), is the same value -/
theorem signEnvelope_keeps (signFn : Bytes → Option Bytes) (t : Nat) (m : List (Cbor × Cbor)) (alg : Alg) (keyId : Int)
    (action : Action) (out : Cbor) (n : Nat) (hn : n ≠ 2)
    (h : signEnvelope signFn (.tag t (.map m)) alg keyId action = .ok out) :
    ∃ m', out = .tag t (.map m') ∧ Cbor.lookup (.uint n) m' = Cbor.lookup (.uint n) m := by
  obtain ⟨m', ho, hl⟩ := signEnvelope_lookup h
  exact ⟨m', ho, hl _ (by simpa using hn.symm)⟩

theorem signDeps_lookup (signFn : String → Alg → Bytes → Option Bytes) :
    ∀ (fuel : Nat) (m0 m m' : List (Cbor × Cbor)) (deps : List (String × Cfg)) (a : Alg),
      signDeps signFn fuel m0 m deps a = .ok m' →
      ∀ k, (∀ d ∈ deps, Cbor.text d.1 ≠ k) → Cbor.lookup k m' = Cbor.lookup k m := by
  intro fuel
  induction fuel with
  | zero => intro m0 m m' deps a h; simp [signDeps] at h
  | succ fuel ih =>
    intro m0 m m' deps a h k hk
    cases deps with
    | nil => simp only [signDeps, Except.ok.injEq] at h; rw [h]
    | cons dc rest =>
      simp only [signDeps] at h
      obtain ⟨dep, -, h⟩ := Except.bind_eq_ok.mp h
      obtain ⟨signed, -, h⟩ := Except.bind_eq_ok.mp h
      exact (ih _ _ _ _ _ h k fun d hd => hk d (List.mem_cons_of_mem _ hd)).trans
        (Cbor.lookup_dictSet_ne m _ (hk dc List.mem_cons_self))

/-- re-embedding signed dependencies changes text-keyed members only -/
theorem signDeps_keeps (signFn : String → Alg → Bytes → Option Bytes) (n : Nat) :
    ∀ (fuel : Nat) (m0 m m' : List (Cbor × Cbor)) (deps : List (String × Cfg)) (a : Alg),
      signDeps signFn fuel m0 m deps a = .ok m' → Cbor.lookup (.uint n) m' = Cbor.lookup (.uint n) m :=
  fun fuel m0 m m' deps a h => signDeps_lookup signFn fuel m0 m m' deps a h _ fun _ _ => by simp [Cbor.text]

theorem recursiveSign_lookup {signFn : String → Alg → Bytes → Option Bytes} {fuel t : Nat} {m : List (Cbor × Cbor)}
    {omitSig : Bool} {keyName : Option String} {keyId : Option Int} {alg : Option Alg} {action : Option Action}
    {deps : List (String × Cfg)} {inh : Alg} {out : Cbor}
    (h : recursiveSign signFn fuel (.tag t (.map m)) (.mk omitSig keyName keyId alg action deps) inh = .ok out) :
    ∃ m', out = .tag t (.map m') ∧
      ∀ k, Cbor.uint 2 ≠ k → (∀ d ∈ deps, Cbor.text d.1 ≠ k) → Cbor.lookup k m' = Cbor.lookup k m := by
  cases fuel with
  | zero => simp [recursiveSign] at h
  | succ fuel =>
    simp only [recursiveSign] at h
    split at h
    · cases h
    · split at h
      · cases h
      · obtain ⟨m1, hd, h⟩ := Except.bind_eq_ok.mp h
        have h1 := signDeps_lookup signFn fuel m m m1 deps _ hd
        split at h
        · cases h
          exact ⟨m1, rfl, fun k _ hk => h1 k hk⟩
        · obtain ⟨m', ho, hl⟩ := signEnvelope_lookup h
          exact ⟨m', ho, fun k h2 hk => by rw [hl k h2, h1 k hk]⟩

/-- **Recursive signing leaves every manifest byte-identical**: at the level it is applied to, the value of envelope
key 3 (and of every integer key other than 2) of the output is that of the input; the statement applies again to
every dependency, whose signed form is the output of the same function. -/
theorem C09_manifest_untouched (signFn : String → Alg → Bytes → Option Bytes) (fuel : Nat) (t : Nat)
    (m : List (Cbor × Cbor)) (cfg : Cfg) (inh : Alg) (out : Cbor) (n : Nat) (hn : n ≠ 2)
    (h : recursiveSign signFn fuel (.tag t (.map m)) cfg inh = .ok out) :
    ∃ m', out = .tag t (.map m') ∧ Cbor.lookup (.uint n) m' = Cbor.lookup (.uint n) m := by
  obtain ⟨omitSig, keyName, keyId, alg, action, deps⟩ := cfg
  obtain ⟨m', ho, hl⟩ := recursiveSign_lookup h
  exact ⟨m', ho, hl _ (by simpa using hn.symm) fun _ _ => by simp [Cbor.text]⟩

end SuitVerif.Props.C09
