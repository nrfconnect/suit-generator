import SuitVerif.Registry
import SuitVerif.Generated.Schema
/-! # C08 — symbolic names and registry codes are in one-to-one correspondence -/
namespace SuitVerif.Props.C08
open SuitVerif

/-- every registered (key space, name, code) is what the code defines - checked against the tables re-extracted
from the live classes on this run -/
theorem C08_registry_present :
    Registry.spaces.all (fun sp => sp.2.all (fun e => (Generated.schema.space sp.1).contains e)) = true := by
  decide +kernel

/-- no two names of a key space share a code and no name occurs twice - for *every* vocabulary-bearing class of
the extracted schema (also for names the registry does not know) -/
theorem C08_nodup :
    Generated.schema.classes.all (fun c => match c.2.vocab with
      | some es => nodupB (es.map (·.1)) && nodupB (es.map (·.2))
      | none => true) = true := by
  decide +kernel

/-- CBOR tags 107, 18 and 96 mark the envelope, COSE_Sign1 and COSE_Encrypt -/
theorem C08_tags : Registry.tags.all (fun t => Generated.schema.tagOf t.1 == some t.2) = true := by
  decide +kernel

/-- digest lengths in bytes: SHA-256/384/512 → 32/48/64, SHAKE128 → 16, SHAKE256 → 32 -/
theorem C08_hash_lengths : Generated.schema.hashes = Registry.hashLengths := by decide +kernel

theorem nodupB_iff {α} [BEq α] [LawfulBEq α] (l : List α) : nodupB l = true ↔ l.Nodup := by
  induction l with
  | nil => simp [nodupB]
  | cons x xs ih => simp [nodupB, ih]

theorem find?_image_of_mem {α β} [BEq β] [LawfulBEq β] (f : α → β) {l : List α} (hl : nodupB (l.map f) = true)
    {e : α} (he : e ∈ l) : l.find? (fun x => f x == f e) = some e := by
  rw [nodupB_iff] at hl
  induction l with
  | nil => simp at he
  | cons x xs ih =>
    rw [List.map_cons, List.nodup_cons] at hl
    rcases List.mem_cons.mp he with rfl | he
    · simp
    · have hx : f x ≠ f e := fun h => hl.1 (h ▸ List.mem_map_of_mem he)
      simp [hx, ih hl.2 he]

theorem find?_image_of_not_mem {α β} [BEq β] [LawfulBEq β] (f : α → β) {l : List α} {b : β} (h : b ∉ l.map f) :
    l.find? (fun x => f x == b) = none :=
  List.find?_eq_none.mpr fun _ hx hb => h (eq_of_beq hb ▸ List.mem_map_of_mem hx)

/-- generic: in a key space without repeated codes, decoding the code of an entry gives back its name … -/
theorem C08_decode_encode (es : List (String × Int)) (hc : nodupB (es.map (·.2)) = true)
    (e : String × Int) (he : e ∈ es) : decodeKey es e.2 = some e.1 := by
  rw [decodeKey, find?_image_of_mem Prod.snd hc he]; rfl

/-- … and in a key space without repeated names, encoding the name of an entry gives its code -/
theorem C08_encode_name (es : List (String × Int)) (hn : nodupB (es.map (·.1)) = true)
    (e : String × Int) (he : e ∈ es) : encodeKey es e.1 = some e.2 := by
  rw [encodeKey, find?_image_of_mem Prod.fst hn he]; rfl

/-- a name that is not in a key space is rejected there (no code) -/
theorem C08_foreign_rejected (es : List (String × Int)) (name : String) (h : name ∉ es.map (·.1)) :
    encodeKey es name = none := by
  rw [encodeKey, find?_image_of_not_mem Prod.fst h]; rfl

/-- a code that is not in a key space is rejected there (no name) -/
theorem C08_foreign_code_rejected (es : List (String × Int)) (code : Int) (h : code ∉ es.map (·.2)) :
    decodeKey es code = none := by
  rw [decodeKey, find?_image_of_not_mem Prod.snd h]; rfl

end SuitVerif.Props.C08
