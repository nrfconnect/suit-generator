import SuitVerif.CacheProofs
/-! # C10 — DFU cache partitions are well-formed, aligned and content-preserving

Property theorems only.  `Cache.check` is the executable statement of the property on the bytes of the
output file (see `Cache.lean`); the same predicate is evaluated by the harness on the files the real tool
writes.  Domain: erase-block size ≥ 1, non-empty URIs shorter than 2^64 bytes, payloads below 2^32 bytes,
lengths below 2^53 (where Python's float `ceil(len/eb)` is exact). -/
namespace SuitVerif.Props.C10
open SuitVerif SuitVerif.Cache

/-- Every file written by `cache_create from_payloads` for at least one slot satisfies the property:
single indefinite map of exactly the supplied pairs plus zero-filled empty-key padding, 4-byte payload
lengths, every slot after the first at a multiple of the erase-block size. All `eb`, all lengths. -/
theorem C10_from_payloads (eb : Nat) (slots : List (Bytes × Bytes)) (out : Bytes)
    (h : fromPayloads eb slots = .ok out) (hne : slots ≠ [])
    (hs : ∀ e ∈ slots, e.1 ≠ [] ∧ e.1.length < 2 ^ 64) :
    check eb slots out = true := by
  obtain ⟨s', h1, h⟩ := Except.bind_eq_ok.mp h
  cases h
  obtain ⟨body, hdata, hacc⟩ := addSlots_accepts eb slots {} s' h1 hs
  have hne' : slots.isEmpty = false := by simpa using hne
  simp only [hne', Bool.not_false, Bool.and_true, opening, List.nil_append] at hdata hacc
  rw [close, hdata]
  exact check_of_accepts eb slots _ hne (hacc 0 (Nat.zero_mod _))

/-- the alignment argument on its own: whatever `add_padding` returns is a multiple of `eb` long, extends the
input, and the extension is empty or one well-formed padding entry (at least 2 bytes). -/
theorem C10_padding (eb : Nat) (d out : Bytes) (h : addPadding eb d = .ok out) :
    out.length % eb = 0 ∧ ∃ pad, out = d ++ pad ∧ PadShape pad :=
  let ⟨hm, pad, he, hs, _⟩ := addPadding_spec eb d out h
  ⟨hm, pad, he, hs⟩

/-- the first branch of the padding rule: nothing is appended at residue 0 -/
theorem C10_padding_residue0 (eb : Nat) (d : Bytes) (heb : 0 < eb) (h : d.length % eb = 0) :
    addPadding eb d = .ok d := by
  simp [addPadding, roundUp_of_dvd eb d.length heb h, Nat.ne_of_gt heb]

/-- a duplicate URI is rejected, not overwritten -/
theorem C10_duplicate_rejected (eb : Nat) (s : State) (u p : Bytes) (h : u ∈ s.uris) :
    addSlot eb s u p = .error .valueError := by
  unfold addSlot
  have : s.uris.contains u = true := by simpa using h
  rw [if_pos this]

/-- every accepted slot records its URI, so a later duplicate anywhere in the sequence is rejected -/
theorem C10_uris_recorded (eb : Nat) (s s' : State) (u p : Bytes) (h : addSlot eb s u p = .ok s') :
    s'.uris = s.uris ++ [u] ∧ u ∉ s.uris := by
  obtain ⟨hc, _, _, _, _, rfl⟩ := addSlot_ok eb s s' u p h
  exact ⟨rfl, by simpa using hc⟩

/-- **Merge.** The file written by `cache_create merge` satisfies the property for the concatenation, in order, of the
slots of its input files (as loaded: empty-key padding entries dropped): one map, every slot exactly once, 4-byte
lengths, erase-block alignment re-established for the *new* erase-block size. -/
theorem C10_merge (eb : Nat) (files : List Bytes) (out : Bytes) (h : merge eb files = .ok out)
    (hne : files.flatMap filePairs ≠ []) (hs : ∀ e ∈ files.flatMap filePairs, e.1.length < 2 ^ 64) :
    check eb (files.flatMap filePairs) out = true := by
  refine C10_from_payloads eb _ out (merge_eq_fromPayloads eb files out h) hne (fun e he => ⟨?_, hs e he⟩)
  obtain ⟨f, _, hef⟩ := List.mem_flatMap.mp he
  have := (List.mem_filter.mp hef).2
  simpa using this

/-- reading back: a file that satisfies `check` for `slots` with pairwise different URIs is loaded (as `cbor2.loads`
does, empty keys dropped as `merge_single_cache_file` does) to exactly `slots`, in order -/
theorem C10_read_back (eb : Nat) (slots : List (Bytes × Bytes)) (out : Bytes) (h : check eb slots out = true)
    (hnd : (slots.map (·.1)).Nodup) : filePairs out = slots := by
  unfold check at h
  split at h
  · rename_i rest
    obtain ⟨items, hw, rfl⟩ := walk_of_check eb _ _ _ _ _ (Bool.and_eq_true _ _ ▸ h).2
    simp only [filePairs, loadsCache, readCache, hw, Option.map_some, Option.getD_some]
    simpa using foldl_dictInsert_filter items [] (by simpa using hnd)
  · cases h

/-- **Merge preserves every slot of every input.** If each input file satisfies the property for its own slot list
(e.g. it was written by `from_payloads`, theorem `C10_from_payloads`, with any erase-block size of its own), the merged
file satisfies it for the concatenation of those lists. -/
theorem C10_merge_preserves (eb : Nat) (inputs : List (Nat × List (Bytes × Bytes) × Bytes)) (out : Bytes)
    (hin : ∀ i ∈ inputs, check i.1 i.2.1 i.2.2 = true ∧ (i.2.1.map (·.1)).Nodup)
    (h : merge eb (inputs.map (·.2.2)) = .ok out)
    (hne : inputs.flatMap (·.2.1) ≠ []) (hs : ∀ e ∈ inputs.flatMap (·.2.1), e.1.length < 2 ^ 64) :
    check eb (inputs.flatMap (·.2.1)) out = true := by
  have heq : (inputs.map (·.2.2)).flatMap filePairs = inputs.flatMap (·.2.1) := by
    rw [List.flatMap_map, List.flatMap_def, List.flatMap_def,
      List.map_congr_left fun i hi => C10_read_back i.1 i.2.1 i.2.2 (hin i hi).1 (hin i hi).2]
  have := C10_merge eb (inputs.map (·.2.2)) out h (by rw [heq]; exact hne) (by rw [heq]; exact hs)
  rwa [heq] at this

/-- non-vacuity: a concrete two-slot cache with eb = 8 is produced and checks. -/
example : (fromPayloads 8 [([0x23, 0x61], [1, 2]), ([0x23, 0x62], [])]).toOption.map (check 8 [([0x23, 0x61], [1, 2]), ([0x23, 0x62], [])]) = some true := by
  decide

end SuitVerif.Props.C10
