import SuitVerif.Storage
import SuitVerif.Mpi
import SuitVerif.Generated.Consts
import SuitVerif.Generated.Layout
/-! # C13 — vendor/class UUIDs are derived identically everywhere -/
namespace SuitVerif.Props.C13
open SuitVerif SuitVerif.Storage

/-- the DNS namespace of the running interpreter's `uuid` module is 6ba7b810-9dad-11d1-80b4-00c04fd430c8 -/
theorem C13_dns : Generated.namespaceDNS = Uuid.namespaceDNS := by decide

theorem tblSet_has (tbl : List (Bytes × String)) (cid : Bytes) (role : String) :
    (tblSet tbl cid role).any (fun e => e.1 == cid && e.2 == role) = true := by
  unfold tblSet
  split
  · next h =>
    obtain ⟨e, he, hc⟩ := List.any_eq_true.mp h
    exact List.any_eq_true.mpr ⟨(cid, role), List.mem_map.mpr ⟨e, he, by simp [hc]⟩, by simp⟩
  · simp

theorem find_replace_other (tbl : List (Bytes × String)) (cid : Bytes) (role : String) (other : Bytes) (h : other ≠ cid) :
    (tbl.map (fun e => if e.1 == cid then (cid, role) else e)).find? (fun e => e.1 == other)
      = tbl.find? (fun e => e.1 == other) := by
  have h2 : (cid == other) = false := beq_eq_false_iff_ne.mpr (Ne.symm h)
  induction tbl with
  | nil => rfl
  | cons e rest ih =>
    cases hc : e.1 == cid with
    | false => simp only [List.map_cons, List.find?_cons, hc, Bool.false_eq_true, if_false, ih]
    | true => simp only [List.map_cons, List.find?_cons, eq_of_beq hc, beq_self_eq_true, if_true, h2, ih]

theorem tblSet_other (tbl : List (Bytes × String)) (cid : Bytes) (role : String) (other : Bytes) (h : other ≠ cid) :
    (tblSet tbl cid role).find? (fun e => e.1 == other) = tbl.find? (fun e => e.1 == other) := by
  unfold tblSet
  split
  · exact find_replace_other tbl cid role other h
  · simp [List.find?_append, Ne.symm h]

/-- **One derivation at all three sites**, for every SHA-1 function and all names: the class identifier embedded in a
manifest from a namespace/name description, the one in the MPI record, and the one keyed in the role table are
`uuid5(uuid5(DNS, vendor), class)`; the vendor identifier is `uuid5(DNS, vendor)`. -/
theorem C13_agree (cx : Encode.Ctx) (vendor cls : String) (address size : Nat) (dp iu : Bool) (tbl : List (Bytes × String)) (role : String) :
    -- manifest site (SuitUUID.from_obj with namespace + name)
    Encode.uuidFromObj cx (.dict [("RFC4122_UUID", .dict [("namespace", .str vendor), ("name", .str cls)])])
      = .ok (.leaf (.bstr (Uuid.uuid5 cx.sha1 (Uuid.uuid5 cx.sha1 Uuid.namespaceDNS (utf8 vendor)) (utf8 cls))) .rawHex)
    -- vendor identifier (name only)
    ∧ Encode.uuidFromObj cx (.dict [("RFC4122_UUID", .str vendor)])
      = .ok (.leaf (.bstr (Uuid.uuid5 cx.sha1 Uuid.namespaceDNS (utf8 vendor))) .rawHex)
    -- MPI site
    ∧ Mpi.generate cx.sha1 (utf8 vendor) (utf8 cls) address size dp iu .none
      = .ok (IHex.place address (Mpi.padFF size (Mpi.recordCore (Uuid.uuid5 cx.sha1 Uuid.namespaceDNS (utf8 vendor))
          (Uuid.uuid5 cx.sha1 (Uuid.uuid5 cx.sha1 Uuid.namespaceDNS (utf8 vendor)) (utf8 cls)) dp iu 1)))
    -- role table site
    ∧ (assign cx.sha1 tbl vendor cls role).any
        (fun e => e.1 == Uuid.uuid5 cx.sha1 (Uuid.uuid5 cx.sha1 Uuid.namespaceDNS (utf8 vendor)) (utf8 cls) && e.2 == role) = true := by
  refine ⟨by simp [Encode.uuidFromObj, Obj.get?], by simp [Encode.uuidFromObj, Obj.get?],
    by simp [Mpi.generate, Mpi.sigByte, bind, Except.bind, pure, Except.pure], ?_⟩
  simp only [assign, Uuid.cid, Uuid.vid]
  exact tblSet_has tbl _ role

/-- **An assignment applies to exactly the named pair**: entries of every other class id keep their role -/
theorem C13_assign_exact (sha1 : Bytes → Bytes) (tbl : List (Bytes × String)) (vendor cls role : String) (other : Bytes)
    (h : other ≠ Uuid.cid sha1 (utf8 vendor) (utf8 cls)) :
    (assign sha1 tbl vendor cls role).find? (fun e => e.1 == other) = tbl.find? (fun e => e.1 == other) :=
  tblSet_other tbl _ role other h

/-- **A configuration giving one vendor/class pair to two roles is rejected.** -/
theorem C13_kconfig_duplicate_rejected (roles : List String) (acc : List (String × String × String)) (vendor cls : String)
    (h : acc.any (fun a => a.1 == vendor && a.2.1 == cls) = true) (manifest : String) :
    (if acc.any (fun a => a.1 == vendor && a.2.1 == cls) then (.error (.generatorError "duplicate-vid-cid") : R (List (String × String × String)))
     else
       let role := if manifest == "ROOT" then "APP_ROOT" else manifest
       if roles.contains role then pure (acc ++ [(vendor, cls, role)]) else .error .keyError)
      = .error (.generatorError "duplicate-vid-cid") := by
  simp [h]

/-- what `parseConfig` makes of the two texts of `C13_kconfig_examples` (`x`: the class name on the last line) -/
def exampleConfig (x : String) : List (String × KVal) :=
  [("SB_CONFIG_SUIT_MPI_ROOT_VENDOR_NAME", .str "v"), ("SB_CONFIG_SUIT_MPI_ROOT_CLASS_NAME", .str "c"),
    ("SB_CONFIG_SUIT_MPI_APP_LOCAL_1_VENDOR_NAME", .str "v"), ("SB_CONFIG_SUIT_MPI_APP_LOCAL_1_CLASS_NAME", .str x)]

/-- concrete configurations through the whole parser: a duplicate pair is rejected, distinct pairs are accepted -/
theorem C13_kconfig_examples :
    (match kconfigAssignments (Generated.roles.map (·.1)) (parseConfig
        "SB_CONFIG_SUIT_MPI_ROOT_VENDOR_NAME=\"v\"\nSB_CONFIG_SUIT_MPI_ROOT_CLASS_NAME=\"c\"\nSB_CONFIG_SUIT_MPI_APP_LOCAL_1_VENDOR_NAME=\"v\"\nSB_CONFIG_SUIT_MPI_APP_LOCAL_1_CLASS_NAME=\"c\"\n")
      with | .error (.generatorError _) => true | _ => false) = true
    ∧ (match kconfigAssignments (Generated.roles.map (·.1)) (parseConfig
        "SB_CONFIG_SUIT_MPI_ROOT_VENDOR_NAME=\"v\"\nSB_CONFIG_SUIT_MPI_ROOT_CLASS_NAME=\"c\"\nSB_CONFIG_SUIT_MPI_APP_LOCAL_1_VENDOR_NAME=\"v\"\nSB_CONFIG_SUIT_MPI_APP_LOCAL_1_CLASS_NAME=\"d\"\n")
      with | .ok [("v", "c", "APP_ROOT"), ("v", "d", "APP_LOCAL_1")] => true | _ => false) = true := by
  -- in two stages, both by evaluation: `parseConfig` of each text is `exampleConfig _`, then `kconfigAssignments` on that dictionary.
  -- The text is turned into characters by `String.toList_ofList`, on the small goal of the first stage: evaluating `String.toList`
  -- of a literal (UTF-8 decoding of a byte array) is very slow in the kernel, and so is checking that rewrite under a large motive
  refine ⟨?_, ?_⟩
  · rw [(?hc : parseConfig _ = exampleConfig "c")]
    · decide +kernel
    · rw [parseConfig, String.toList_ofList]; decide +kernel
  · rw [(?hd : parseConfig _ = exampleConfig "d")]
    · decide +kernel
    · rw [parseConfig, String.toList_ofList]; decide +kernel

end SuitVerif.Props.C13
