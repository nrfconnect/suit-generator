import SuitVerif.Storage
import SuitVerif.Generated.Layout
import SuitVerif.IHexText
/-! # C07 — boot storage images place each installed envelope intact in its role's slot -/
namespace SuitVerif.Props.C07
open SuitVerif SuitVerif.Storage SuitVerif.IHex

def disjoint (a b : Slot) : Bool := a.offset + a.size ≤ b.offset || b.offset + b.size ≤ a.offset

def pairwise {α} (p : α → α → Bool) : List α → Bool
  | [] => true
  | x :: xs => xs.all (p x) && pairwise p xs

/-- **Slots never overlap**: all slots of a SoC are pairwise disjoint - across domains too, not only inside one hex
file - for both layouts as extracted from the running code -/
theorem C07_layout_disjoint :
    pairwise disjoint Generated.layout_nrf54h20 = true ∧ pairwise disjoint Generated.layout_nrf9280 = true := by
  decide +kernel

/-- every role has at most one slot, every slot a positive size, in both layouts -/
theorem C07_layout_roles_unique :
    pairwise (fun a b => a.role != b.role) Generated.layout_nrf54h20 = true
    ∧ pairwise (fun a b => a.role != b.role) Generated.layout_nrf9280 = true
    ∧ Generated.layout_nrf54h20.all (fun s => 0 < s.size) = true
    ∧ Generated.layout_nrf9280.all (fun s => 0 < s.size) = true := by
  decide +kernel

/-- every slot's role and domain are members of the role / domain enumerations, and there are 11 slots: by
`C07_layout_roles_unique`, one for every role but `UNKNOWN` -/
theorem C07_layout_roles_known :
    Generated.layout_nrf54h20.all (fun s => (Generated.roles.map (·.1)).contains s.role && Generated.domains.contains s.domain) = true
    ∧ Generated.layout_nrf9280.all (fun s => (Generated.roles.map (·.1)).contains s.role && Generated.domains.contains s.domain) = true
    ∧ Generated.layout_nrf54h20.length = 11 ∧ Generated.layout_nrf9280.length = 11 := by
  decide +kernel

/-- the slot map keys / version: `{0: 1, 1: offset, 2: envelope}` -/
theorem C07_slot_keys : Generated.slotKeys = (0, 1, 1, 2) := by decide

theorem isPrefixOf_take (p s : Bytes) (h : p.isPrefixOf s = true) : s.take p.length = p :=
  (List.prefix_iff_eq_take.mp (List.isPrefixOf_iff_prefix.mp h)).symm

/-- `bytes.find`: at the returned position the pattern really occurs -/
theorem findSub_sound (pat : Bytes) : ∀ (s : Bytes) (i0 i : Nat), findSub pat s i0 = some i →
    i0 ≤ i ∧ (s.drop (i - i0)).take pat.length = pat := by
  intro s
  induction s with
  | nil =>
    intro i0 i h
    obtain ⟨rfl, rfl⟩ : pat = [] ∧ i0 = i := by simpa [findSub] using h
    simp
  | cons c rest ih =>
    intro i0 i h
    simp only [findSub] at h
    split at h
    · rename_i hp
      simp only [Option.some.injEq] at h; subst h
      simp [isPrefixOf_take pat (c :: rest) hp]
    · obtain ⟨h1, h2⟩ := ih (i0 + 1) i h
      refine ⟨by omega, ?_⟩
      have : i - i0 = (i - (i0 + 1)) + 1 := by omega
      rw [this, List.drop_succ_cons]
      exact h2

/-- **Class UUID at the recorded offset.** The search pattern is the encoded `suit-manifest-component-id` entry
`05 82 4C 6B "INSTLD_MFST" 50 <uuid>`: wherever `find` locates it in the stored envelope, the 16 bytes at
(position + 16) - the offset recorded in the slot - are the UUID of that pattern.  (So no "first occurrence" caveat
is needed: any occurrence of the 32-byte pattern carries the UUID.) -/
theorem C07_class_at_offset (pre uuid : Bytes) (severed : Bytes) (i : Nat) (hpre : pre.length = 16) (hu : uuid.length = 16)
    (h : findSub (pre ++ uuid) severed 0 = some i) : slice16 severed (i + 16) = uuid := by
  obtain ⟨_, h2⟩ := findSub_sound (pre ++ uuid) severed 0 i h
  simp only [Nat.sub_zero, List.length_append, hpre, hu] at h2
  have h3 : ((severed.drop i).take 32).drop 16 = ((severed.drop i).drop 16).take 16 := List.drop_take
  rw [slice16, ← List.drop_drop, ← h3, h2, List.drop_left' hpre]

/-- the prefix of the pattern before the UUID is exactly 16 bytes: key 5, array(2), bstr(12) of tstr(11) "INSTLD_MFST",
bstr(16) head -/
theorem C07_pattern_prefix :
    ([0x05, 0x82, 0x4C, 0x6B] ++ utf8 "INSTLD_MFST" ++ [0x50] : Bytes).length = 16 := by decide +kernel

/-- **Slot content, and nothing else**: *every* segment of a domain's image is the slot of a stored envelope whose role
belongs to that domain, at base + the role's offset: the slot map followed by 0xFF up to the slot size -/
theorem C07_slot (layout : List Slot) (base : Nat) (stored : List Stored) (domain : String) (a : Nat) (b : Bytes)
    (h : (a, b) ∈ domainImage layout base stored domain) :
    ∃ s e, s ∈ layout ∧ s.domain = domain ∧ e ∈ stored ∧ e.role = s.role ∧ a = base + s.offset
      ∧ b = e.bytes ++ List.replicate (s.size - e.bytes.length) 0xFF := by
  obtain ⟨s, hs, hm⟩ := List.mem_filterMap.mp h
  split at hm
  · rename_i hd
    obtain ⟨e, hf, he⟩ := Option.map_eq_some_iff.mp hm
    cases he
    exact ⟨s, e, hs, by simpa using hd, List.mem_of_find?_eq_some hf, by simpa using List.find?_some hf, rfl, rfl⟩
  · cases hm

/-- `add_envelope`'s last rejection (after unknown class, no slot, too large): a second envelope for a role is refused.
Stated on the decision after the slot map has been built. -/
theorem C07_reject_duplicate (stored : List Stored) (role : String) (h : stored.any (fun s => s.role == role) = true)
    (slot : Slot) (slotMap : Bytes) (hfit : ¬ slot.size < slotMap.length) :
    (if slot.size < slotMap.length then (.error (.generatorError "fit") : R (List Stored))
     else if stored.any (fun s => s.role == role) then .error (.generatorError "duplicate")
     else .ok (stored ++ [{ role := role, bytes := slotMap }])) = .error (.generatorError "duplicate") := by
  simp [hfit, h]

/-- all envelopes are added before any image is produced: if one is rejected, `boot` yields no image at all -/
theorem C07_no_partial_output (cx : Encode.Ctx) (layout : List Slot) (domains : List String) (tbl : List (Bytes × String))
    (base : Nat) (files : List Bytes) (e : Err)
    (h : files.foldlM (fun st f => addEnvelope cx layout tbl st f) [] = .error e) :
    boot cx layout domains tbl base files = .error e := by
  simp [boot, h, bind, Except.bind]

/-! ### file level: the text of a domain's hex file

The statements above are about the image of a domain; its file holds several separate blocks and is written by third-party code.  `IHexImage.lean`
models that writer for whole images; the harness compares the model's text with the file the tool wrote for every domain of every run
(`writer-model:*` in the evidence). -/

/-- the text of the file the writer model produces for a canonical image reads back, with the strict reader, as exactly that image -/
theorem C07_file_reads_back (c : Image) (hsep : IHex.Separated c) (hb : ∀ s ∈ c, s.1 + s.2.length ≤ 2 ^ 32) :
    IHex.read (IHex.writeImageText c) = some c := IHex.read_writeImageText c hsep hb

/-- whatever the strict reader returns for a domain's file (any file it accepts) is a canonical image: non-empty blocks, ascending, at least
one undefined address between them -/
theorem C07_read_image_canonical (text : String) (c : Image) (h : IHex.read text = some c) : IHex.Separated c := IHex.read_sep text c h

/-- ... and is a fixed point of write-then-read: the writer model's text for it reads back as that same image -/
theorem C07_file_stable (text : String) (c : Image) (h : IHex.read text = some c) (hb : ∀ s ∈ c, s.1 + s.2.length ≤ 2 ^ 32) :
    IHex.read (IHex.writeImageText c) = some c := IHex.read_stable text c h hb

/-- what the reader returns for a domain's file is its own canonical form, so the slot predicates (which look at `canon img`) look at the image itself -/
theorem C07_read_image_fixed (text : String) (c : Image) (h : IHex.read text = some c) : IHex.canon c = some c := IHex.read_canon text c h

/-- a concrete file of two slots in one domain, the second beyond a 64 KiB border (hypotheses of the theorem met).  The records are
written and read by kernel evaluation; the text layer goes by `read_textOf`, because evaluating `String.toList (String.ofList _)`
(UTF-8 encoding and decoding of the whole file) costs the kernel far more than all the rest -/
example : IHex.read (IHex.writeImageText [(0x0E1EFFF0, (List.range 40).map UInt8.ofNat), (0x0E1F0400, [1, 2, 3])])
    = some [(0x0E1EFFF0, (List.range 40).map UInt8.ofNat), (0x0E1F0400, [1, 2, 3])] := by
  rw [IHex.writeImageText, IHex.read_textOf]; decide +kernel

example : IHex.Separated [(0x0E1EFFF0, (List.range 40).map UInt8.ofNat), (0x0E1F0400, [1, 2, 3])] := by
  refine ⟨by decide, by decide, ?_⟩
  show ([1, 2, 3] : Bytes) ≠ []
  decide

end SuitVerif.Props.C07
