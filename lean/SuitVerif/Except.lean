/-! Taking a successful `do` block in `Except` apart, one `←` at a time. -/
namespace Except

theorem bind_eq_ok {ε α β} {x : Except ε α} {f : α → Except ε β} {b : β} :
    x >>= f = .ok b ↔ ∃ a, x = .ok a ∧ f a = .ok b := by
  cases x <;> simp [bind, Except.bind]

/-- the invariant may mention the elements processed so far -/
theorem foldlM_invariant {α β ε : Type} {f : β → α → Except ε β} (I : List α → β → Prop)
    (step : ∀ done a b b', I done b → f b a = .ok b' → I (done ++ [a]) b') :
    ∀ (l done : List α) (b b' : β), I done b → l.foldlM f b = .ok b' → I (done ++ l) b'
  | [], done, b, b', hI, h => by cases h; simpa using hI
  | a :: l, done, b, b', hI, h => by
    rw [List.foldlM_cons] at h
    obtain ⟨b1, h1, h⟩ := bind_eq_ok.mp h
    simpa using foldlM_invariant I step l (done ++ [a]) b1 b' (step done a b b1 hI h1) h

end Except
