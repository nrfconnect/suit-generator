import SuitVerif.IHexWrite
/-! The writer model for a whole memory image - several separate blocks, as the per-domain storage files and a merged MPI area with gaps
have them - and the theorem that the strict reader gives the image back: `readRecs (writeImageRecs c) = some c` for every canonical image
(non-empty blocks in ascending order, separated by at least one undefined address, below 2^32).  The reader stores the data records of all
blocks (`fold_writeSegs`); they cut the image into pieces (`allChunks_cut`), so its canonical form is the image (`canon_cut`). -/
namespace SuitVerif.IHex
open SuitVerif

/-- the data records of all blocks, the address-extension state carried from block to block -/
def writeSegs (need : Bool) : Option Nat → List (Nat × Bytes) → List Bytes
  | _, [] => []
  | hi, (a, d) :: rest => writeGo need d.length hi a d ++ writeSegs need (hiEnd need d.length hi a d) rest

def allChunks : List (Nat × Bytes) → List (Nat × Bytes)
  | [] => []
  | (a, d) :: rest => chunks d.length a d ++ allChunks rest

def maxEnd (c : List (Nat × Bytes)) : Nat := c.foldl (fun m s => max m (s.1 + s.2.length)) 0

/-- the records of the file for image `c` (extension records only when some address exceeds 0xFFFF) -/
def writeImageRecs (c : List (Nat × Bytes)) : List Bytes :=
  writeSegs (decide (maxEnd c - 1 > 65535)) none c ++ [eofRecord]

def writeImageText (c : List (Nat × Bytes)) : String := String.ofList (textOf (writeImageRecs c))

theorem fold_writeSegs (need : Bool) : ∀ (c : List (Nat × Bytes)) (hi : Option Nat) (st : RState),
    st.done = false → (∀ s ∈ c, s.1 + s.2.length ≤ 2 ^ 32) → (need = false → ∀ s ∈ c, s.1 + s.2.length ≤ 65536) → AddrInv need hi st →
    ∃ st', foldRecs (writeSegs need hi c) (some st) = some st' ∧ st'.done = false ∧ st'.segs = (allChunks c).reverse ++ st.segs := by
  intro c
  induction c with
  | nil => intro hi st hd _ _ _; exact ⟨st, by simp [writeSegs, foldRecs], hd, by simp [allChunks]⟩
  | cons s rest ih =>
    intro hi st hd hb hn hinv
    obtain ⟨a, d⟩ := s
    obtain ⟨st1, hf1, hd1, hs1, hi1⟩ := fold_writeGo need d.length hi a d st hd (Nat.le_refl _) (hb (a, d) (by simp)) hinv
      (fun h => hn h (a, d) (by simp))
    obtain ⟨st2, hf2, hd2, hs2⟩ := ih (hiEnd need d.length hi a d) st1 hd1 (fun s hs => hb s (by simp [hs])) (fun h s hs => hn h s (by simp [hs])) hi1
    refine ⟨st2, ?_, hd2, ?_⟩
    · simp only [writeSegs]
      rw [foldRecs_append, hf1, hf2]
    · rw [hs2, hs1]; simp [allChunks]

theorem allChunks_cut : ∀ (c : List (Nat × Bytes)), Cut c (allChunks c)
  | [] => Cut.nil
  | (a, d) :: c => Cut.cons (chunks_pieces d.length a d (Nat.le_refl _)) (allChunks_cut c)

theorem sortSegs_allChunks : ∀ (c : List (Nat × Bytes)), Separated c → sortSegs (allChunks c) = allChunks c :=
  fun c hsep => (allChunks_cut c).sorted hsep

theorem mergeGo_allChunks : ∀ (rest : List (Nat × Bytes)) (s0 e : Nat) (accs : List Bytes) (acc : List (Nat × Bytes)),
    Separated rest → (∀ y ys, rest = y :: ys → e < y.1) →
    mergeGo (s0, e, accs) acc (allChunks rest) = some (acc.reverse ++ (s0, accs.reverse.flatten) :: rest) := by
  intro rest s0 e accs acc hsep hgap
  rw [mergeGo_gap _ _ _ _ _ ((allChunks_cut rest).sortedFrom hsep (e + 1) hgap).2, mergeFrom_cut (allChunks_cut rest) hsep]
  simp

theorem canon_allChunks (c : List (Nat × Bytes)) (hsep : Separated c) : canon (allChunks c) = some c :=
  canon_cut c _ (allChunks_cut c) hsep

theorem le_maxEnd (c : List (Nat × Bytes)) (s : Nat × Bytes) (h : s ∈ c) : s.1 + s.2.length ≤ maxEnd c := by
  have : maxEnd c = (c.map (fun s => s.1 + s.2.length)).foldl max 0 := by rw [List.foldl_map]; rfl
  rw [this, List.foldl_max]
  have hm : s.1 + s.2.length ∈ c.map (fun s => s.1 + s.2.length) := List.mem_map_of_mem h
  exact Nat.le_trans (List.le_max?_getD_of_mem hm) (Nat.le_max_right _ _)

theorem readRecs_writeImageRecs_canon (c : List (Nat × Bytes)) (hb : ∀ s ∈ c, s.1 + s.2.length ≤ 2 ^ 32) :
    readRecs (writeImageRecs c) = canon (allChunks c) := by
  obtain ⟨st', hf, hd', hs'⟩ := fold_writeSegs (decide (maxEnd c - 1 > 65535)) c none {} rfl hb
    (by
      intro hneed s hs
      simp only [decide_eq_false_iff_not] at hneed
      have := le_maxEnd c s hs
      omega)
    ⟨(by intro _ u hu; cases hu), fun _ => ⟨rfl, rfl⟩⟩
  have hfold : foldRecs (writeImageRecs c) (some {}) = some { st' with done := true } := by
    rw [writeImageRecs, foldRecs_append, hf, foldRecs_cons, step_eof st' hd']
    rfl
  show (match foldRecs (writeImageRecs c) (some {}) with
    | some st => if st.done then canon st.segs.reverse else none
    | none => none) = _
  rw [hfold]
  simp [hs']

/-- **the reader gives back the image**: for every canonical image below 2^32, reading the records of its file yields exactly the image -/
theorem readRecs_writeImageRecs (c : List (Nat × Bytes)) (hsep : Separated c) (hb : ∀ s ∈ c, s.1 + s.2.length ≤ 2 ^ 32) :
    readRecs (writeImageRecs c) = some c := by
  rw [readRecs_writeImageRecs_canon c hb, canon_allChunks c hsep]

theorem writeRecs_eq (addr : Nat) (data : Bytes) : writeRecs addr data = writeImageRecs [(addr, data)] := by
  simp [writeRecs, writeImageRecs, writeSegs, maxEnd]

/-- **the reader gives back what the writer wrote**: for every address and every block of data that ends below 2^32, reading the
records of the file yields exactly that block at that address (and nothing for an empty block). -/
theorem readRecs_writeRecs (addr : Nat) (data : Bytes) (hb : addr + data.length ≤ 2 ^ 32) :
    readRecs (writeRecs addr data) = some (if data = [] then [] else [(addr, data)]) := by
  rw [writeRecs_eq, readRecs_writeImageRecs_canon _ (by simpa using hb)]
  split
  · subst data; rfl
  · rename_i hd; exact canon_allChunks [(addr, data)] hd

end SuitVerif.IHex
