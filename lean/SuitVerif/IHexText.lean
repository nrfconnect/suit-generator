import SuitVerif.IHexImage
/-! The text layer of a hex file: one line per record - a colon, upper-case hexadecimal, a line break.  The verifier's reader
`IHex.read` on the text the writer model produces is the record-level reader on the records (`read_textOf`), hence gives back the
block (`read_writeText`) or the image (`read_writeImageText`); and what it returns for any file is a fixed point of write-then-read
(`read_stable`). -/
namespace SuitVerif.IHex
open SuitVerif

theorem hexDigitU_not_break : ∀ n, n < 16 → hexDigitU n ≠ '\n' ∧ hexDigitU n ≠ '\r' := by decide

theorem toHexCharsU_no_break (b : Bytes) : ∀ c ∈ toHexCharsU b, c ≠ '\n' ∧ c ≠ '\r' := by
  induction b with
  | nil => intro c h; simp [toHexCharsU] at h
  | cons x xs ih =>
    intro c h
    have hx := x.toNat_lt
    simp only [toHexCharsU, List.mem_cons] at h
    rcases h with h | h | h
    · subst h; exact hexDigitU_not_break _ (by omega)
    · subst h; exact hexDigitU_not_break _ (by omega)
    · exact ih c h

theorem go_line (l : List Char) (hl : ∀ c ∈ l, c ≠ '\n' ∧ c ≠ '\r') : ∀ (cur : List Char) (acc : List (List Char)) (rest : List Char),
    splitLines.go cur acc (l ++ '\n' :: rest) = splitLines.go [] ((cur.reverse ++ l) :: acc) rest := by
  induction l with
  | nil => intro cur acc rest; simp [splitLines.go]
  | cons c cs ih =>
    intro cur acc rest
    have hc := hl c (by simp)
    simp only [List.cons_append, splitLines.go, hc.1, hc.2, if_false]
    rw [ih (fun c' h' => hl c' (by simp [h'])) (c :: cur) acc rest]
    simp

theorem go_lines (ls : List (List Char)) (hls : ∀ l ∈ ls, ∀ c ∈ l, c ≠ '\n' ∧ c ≠ '\r') : ∀ (acc : List (List Char)),
    splitLines.go [] acc ((ls.map (fun l => l ++ ['\n'])).flatten) = acc.reverse ++ ls := by
  induction ls with
  | nil => intro acc; simp [splitLines.go]
  | cons l ls ih =>
    intro acc
    simp only [List.map_cons, List.flatten_cons, List.append_assoc, List.singleton_append]
    rw [go_line l (hls l (by simp)) [] acc, ih (fun l' h' => hls l' (by simp [h']))]
    simp

theorem splitLines_textOf (recs : List Bytes) : splitLines (textOf recs) = recs.map (fun r => ':' :: toHexCharsU r) := by
  unfold splitLines textOf
  have : (recs.map recordLine) = (recs.map (fun r => ':' :: toHexCharsU r)).map (fun l => l ++ ['\n']) := by
    simp [recordLine, List.map_map, Function.comp_def]
  rw [this, go_lines _ (by
    intro l hl c hc
    obtain ⟨r, _, rfl⟩ := List.mem_map.mp hl
    rcases List.mem_cons.mp hc with h | h
    · subst h; decide
    · exact toHexCharsU_no_break r c h)]
  simp

theorem read_textOf (recs : List Bytes) : read (String.ofList (textOf recs)) = readRecs recs := by
  have hf : (recs.map (fun r => ':' :: toHexCharsU r)).filter (· ≠ []) = recs.map (fun r => ':' :: toHexCharsU r) := by
    rw [List.filter_eq_self]; intro l hl; obtain ⟨r, _, rfl⟩ := List.mem_map.mp hl; simp
  unfold read readRecs
  simp only [String.toList_ofList, splitLines_textOf, hf, List.foldl_map]
  -- both sides now fold over `recs`; the step functions agree because the line of `r` reads back as `r`
  congr
  funext acc r
  cases acc <;> simp [ofHexChars_toHexCharsU]

/-- **file level**: the verifier's reader, on the text of the file the writer model produces for a block of data, yields exactly
that block at that address - every address, every length, up to 2^32. -/
theorem read_writeText (addr : Nat) (data : Bytes) (hb : addr + data.length ≤ 2 ^ 32) :
    read (writeText addr data) = some (if data = [] then [] else [(addr, data)]) := by
  unfold writeText
  rw [read_textOf, readRecs_writeRecs addr data hb]

/-- **file level, whole images**: the strict reader, on the text of the file the writer model produces for a canonical image (non-empty blocks,
ascending, separated by at least one undefined address, below 2^32), yields exactly that image -/
theorem read_writeImageText (c : List (Nat × Bytes)) (hsep : Separated c) (hb : ∀ s ∈ c, s.1 + s.2.length ≤ 2 ^ 32) :
    read (writeImageText c) = some c := by
  unfold writeImageText
  rw [read_textOf, readRecs_writeImageRecs c hsep hb]

/-- **the reader's answers are fixed points**: whatever image the strict reader returns for a file (any file), written by the writer model and
read again, is that same image - the image is canonical (`read_sep`), so the read-back theorem applies to it -/
theorem read_stable (text : String) (c : Image) (h : read text = some c) (hb : ∀ s ∈ c, s.1 + s.2.length ≤ 2 ^ 32) :
    read (writeImageText c) = some c := read_writeImageText c (read_sep text c h) hb

end SuitVerif.IHex
