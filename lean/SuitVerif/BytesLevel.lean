import SuitVerif.EnvShape
/-! From the node-level facts (`DigestsOk`, `EnvShape`) to the byte-level predicate `Spec.check1` on what is written. -/
namespace SuitVerif.Typing
open SuitVerif SuitVerif.Encode SuitVerif.Decode SuitVerif.Py

theorem hash_eq_hashFn (cx : Ctx) (alg : String) (x hd : Bytes) (h : cx.hash alg x = some hd) : hd = cx.hashFn alg x := by
  unfold Ctx.hash at h
  split at h
  · exact (Option.some.inj h).symm
  · cases h

theorem isDigest_vals {algs : List (String × Int)} {dg : Node} (h : IsDigest algs dg) :
    ∃ ks A b, IsAlg algs A ∧ peel dg = .tuple ks [A, .leaf (.bstr b) .hex] ∧ dg.toVal = .arr [A.toVal, .bstr b] ∧
      dg.toBytes = enc dg.toVal := by
  induction h with
  | tuple ha => exact ⟨_, _, _, ha, rfl, rfl, rfl⟩
  | alt _ ih => exact ih

theorem digest_reads (cx : Ctx) (H : Spec.HashById) (hH : ∀ e ∈ hashEnum cx.schema, H e.2 = some (cx.hashFn e.1))
    {dg : Node} {alg : String} {x hd : Bytes} (hdg : IsDigest (hashEnum cx.schema) dg) (halg : digestAlg dg = some alg)
    (hhash : cx.hash alg x = some hd) (hbytes : digestBytes dg = some hd) :
    ∃ id h, Spec.digestPair dg.toVal = some (id, h x) ∧ H id = some h := by
  obtain ⟨ks, A, b, hA, hpeel, hval, -⟩ := isDigest_vals hdg
  simp only [digestBytes, digestAlg, hpeel] at hbytes halg
  cases hbytes
  cases hA with
  | null => cases halg
  | enumv he =>
    cases halg
    exact ⟨_, _, by rw [hval, hash_eq_hashFn cx _ _ _ hhash]; simp [Spec.digestPair, Node.toVal, Cbor.toInt_ofInt], hH _ he⟩

theorem lookup_uint_kvPairs {es : List (KvKey × Node)} (hg : KvGood es) (k : Nat) :
    Cbor.lookup (.uint k) (kvPairs es []) = (kvGet es k).map Node.toVal := by
  rw [← Cbor.ofInt_nat, lookup_kvPairs _ _ _ hg]
  cases kvGet es k <;> rfl

/-- the values that must be encodable (all lengths and integers below 2^64) for the strict reader to read the envelope,
the authentication wrapper, the digest and the manifest back -/
def layerVals (n : Node) : List Cbor :=
  match n with
  | .tagged _ _ (.kv es) =>
    [n.toVal] ++
    (match kvGet es 2 with
     | some (.wrapped a) => [a.toVal] ++ (match a with | .tuple _ (.wrapped dg :: _) => [dg.toVal] | _ => [])
     | _ => []) ++
    (match kvGet es 3 with
     | some (.wrapped m) => [m.toVal]
     | _ => [])
  | _ => []

theorem decodeStrict_toBytes {n : Node} (hw : n.toVal.wf = true) (h : n.toBytes = enc n.toVal) :
    decodeStrict n.toBytes = some n.toVal := h ▸ decodeStrict_enc _ hw

/-- `Spec.checkRoot` holds of the encoded envelope map when the authentication wrapper's digest node holds the declared hash of
the manifest's `to_cbor()` bytes (the root half of `DigestsOk`) -/
theorem root_ok (cx : Ctx) (H : Spec.HashById) (hH : ∀ e ∈ hashEnum cx.schema, H e.2 = some (cx.hashFn e.1))
    (es : List (KvKey × Node)) (hs : EnvShape (hashEnum cx.schema) es)
    (m : Node) (hm : kvGet es 3 = some m) (d : Node) (alg : String) (hd : Bytes)
    (hauth : authDigest es = some d) (halg : digestAlg d = some alg) (hhash : cx.hash alg m.toBytes = some hd)
    (hbytes : digestBytes d = some hd)
    (nm : String) (hwf : ∀ v ∈ layerVals (.tagged 107 nm (.kv es)), v.wf = true) :
    Spec.checkRoot H (kvPairs es []) = true := by
  obtain ⟨a, ks, blocks, ha, hpeel⟩ := authDigest_eq_some.mp hauth
  obtain ⟨_, dg, _, rfl, hdg⟩ := hs.auth a ha
  cases hpeel
  obtain ⟨mes, rfl, -, -⟩ := hs.man m hm
  obtain ⟨id, h, hpair, hid⟩ := digest_reads cx H hH hdg halg hhash hbytes
  obtain ⟨_, _, _, -, -, -, htb⟩ := isDigest_vals hdg
  have wA := hwf (Node.tuple ks (Node.wrapped dg :: blocks)).toVal (by simp [layerVals, ha])
  have wD := hwf dg.toVal (by simp [layerVals, ha])
  unfold Spec.checkRoot
  rw [lookup_uint_kvPairs hs.good, lookup_uint_kvPairs hs.good]
  -- `lookup_uint_kvPairs` speaks of `kvGet es ↑2`, `ha` of `kvGet es 2`: the cast of a numeral is the numeral
  simp only [Int.cast_ofNat_Int, ha, hm, Option.map_some, Node.toVal]
  rw [decodeStrict_toBytes wA rfl]
  simp only [Node.toVal, valList]
  rw [decodeStrict_toBytes wD htb]
  simp [hpair, hid, Node.toBytes]

/-- `Spec.checkSevered` holds of the encoded envelope map when every severable key is consistent in the tree (`SevOk`) -/
theorem sev_ok (cx : Ctx) (H : Spec.HashById) (hH : ∀ e ∈ hashEnum cx.schema, H e.2 = some (cx.hashFn e.1))
    (es : List (KvKey × Node)) (hs : EnvShape (hashEnum cx.schema) es)
    (mes : List (KvKey × Node)) (hm : kvGet es 3 = some (.wrapped (.kv mes)))
    (hsev : ∀ k ∈ Encode.severableKeys, SevOk cx es mes k)
    (nm : String) (hwf : ∀ v ∈ layerVals (.tagged 107 nm (.kv es)), v.wf = true) :
    Spec.checkSevered H (kvPairs es []) = true := by
  obtain ⟨_, hmeq, hgoodm, hent⟩ := hs.man _ hm
  cases hmeq
  have wM := hwf (Node.kv mes).toVal (by simp [layerVals, hm])
  unfold Spec.checkSevered
  rw [lookup_uint_kvPairs hs.good]
  simp only [Int.cast_ofNat_Int, hm, Option.map_some, Node.toVal]
  rw [decodeStrict_toBytes wM rfl]
  simp only [Node.toVal]
  rw [List.all_eq_true]
  intro k hk
  have hkI : (k : Int) ∈ sevKeys ∧ (k : Int) ∈ Encode.severableKeys := by revert k; decide
  rw [lookup_uint_kvPairs hgoodm, lookup_uint_kvPairs hs.good]
  cases hentry : kvGet mes (k : Int) with
  | none => rfl
  | some entry =>
    cases hsv : kvGet es (k : Int) with
    | none => rfl
    | some sv =>
      obtain ⟨x, rfl⟩ := hs.sev _ hkI.1 sv hsv
      rcases hent _ hkI.1 entry hentry with ⟨hda, hdg⟩ | ⟨_, hnone⟩
      · obtain ⟨alg, hd, halg, hhash, hbytes⟩ := hsev _ hkI.2 entry _ hentry hda hsv
        obtain ⟨id, h, hpair, hid⟩ := digest_reads cx H hH hdg halg hhash hbytes
        simp [hpair, hid, Node.toBytes, Node.toVal]
      · simp [hnone]

theorem check1_of_digestsOk (cx : Ctx) (H : Spec.HashById) (hH : ∀ e ∈ hashEnum cx.schema, H e.2 = some (cx.hashFn e.1))
    {nm : String} {es : List (KvKey × Node)} (hs : EnvShape (hashEnum cx.schema) es)
    (hd : DigestsOk cx (.tagged 107 nm (.kv es))) (hwf : ∀ v ∈ layerVals (.tagged 107 nm (.kv es)), v.wf = true) :
    Spec.check1 H (Node.tagged 107 nm (.kv es)).toBytes = true := by
  obtain ⟨_, _, _, m, mes, d, alg, hd, hn, hm, hpeel, hauth, halg, hhash, hbytes, hsev⟩ := hd
  cases hn
  obtain ⟨_, rfl, -, -⟩ := hs.man m hm
  cases hpeel
  have w0 := hwf (Node.tagged 107 nm (Node.kv es)).toVal (by simp [layerVals])
  unfold Spec.check1 Spec.envelopeMap
  rw [decodeStrict_toBytes w0 rfl]
  simp only [Node.toVal]
  rw [root_ok cx H hH es hs _ hm d alg hd hauth halg hhash hbytes nm hwf, sev_ok cx H hH es hs mes hm hsev nm hwf]
  rfl

/-- **C01 on the bytes.** For every schema with the envelope's digest paths (`EnvFacts`, checked by the kernel on the extracted
schema), every file system, hash function and description: if the three steps of `create` succeed and the envelope, the
authentication wrapper, the digest and the manifest of the resulting tree are encodable (all lengths and integers below 2^64),
then the byte-level predicate `Spec.check1` - own strict reader, digest table by COSE identifier - holds of the bytes written. -/
theorem check1_steps (cx : Ctx) (hf : EnvFacts cx.schema) (H : Spec.HashById)
    (hH : ∀ e ∈ hashEnum cx.schema, H e.2 = some (cx.hashFn e.1))
    (fuel : Nat) (o : Obj) (n0 n1 n2 : Node)
    (h0 : fromObj cx fuel cx.schema.envelope o = .ok n0) (h1 : updateSeverable cx n0 = .ok n1) (h2 : updateDigest cx n1 = .ok n2)
    (hwf : ∀ v ∈ layerVals n2, v.wf = true) :
    Spec.check1 H n2.toBytes = true := by
  obtain ⟨nm, es0, rfl, hs0⟩ := envShape_of_typed hf (fromObj_typed cx fuel _ o n0 h0)
  obtain ⟨es1, rfl, hs1⟩ := shape_updateSeverable hs0 h1
  obtain ⟨es2, rfl, hs2⟩ := shape_updateDigest hs1 h2
  exact check1_of_digestsOk cx H hH hs2 (digestsOk_updates h1 h2) hwf

end SuitVerif.Typing
