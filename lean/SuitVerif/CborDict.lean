import SuitVerif.CborProofs
import SuitVerif.Schema
/-! Python dictionaries of CBOR values as association lists: assignment (`dictSet`), removal of a key and `Cbor.lookup`.
`Sign.mapSet` and `Extract.mapSet` are `dictSet` under other names (same body), so these lemmas serve them by `rfl`. -/
namespace SuitVerif

@[simp] theorem Cbor.lookup_nil (k : Cbor) : Cbor.lookup k [] = none := rfl

@[simp] theorem Cbor.lookup_cons (k : Cbor) (e : Cbor × Cbor) (d : List (Cbor × Cbor)) :
    Cbor.lookup k (e :: d) = if e.1 == k then some e.2 else Cbor.lookup k d := rfl

theorem dictSet_fresh (d : List (Cbor × Cbor)) (k v : Cbor) (h : ∀ e ∈ d, e.1 ≠ k) : dictSet d k v = d ++ [(k, v)] :=
  if_neg fun hc => let ⟨e, he, hk⟩ := List.any_eq_true.mp hc; h e he (eq_of_beq hk)

theorem dictSet_cons_ne {e : Cbor × Cbor} {k : Cbor} (h : e.1 ≠ k) (d : List (Cbor × Cbor)) (v : Cbor) :
    dictSet (e :: d) k v = e :: dictSet d k v := by
  simp only [dictSet, List.any_cons, beq_eq_false_iff_ne.mpr h, Bool.false_or, List.map_cons]
  split <;> simp

theorem Cbor.lookup_append_ne (d : List (Cbor × Cbor)) {k' k : Cbor} (v : Cbor) (h : k' ≠ k) :
    Cbor.lookup k (d ++ [(k', v)]) = Cbor.lookup k d := by
  induction d with
  | nil => simp [h]
  | cons e rest ih => simp [ih]

theorem Cbor.lookup_replace_ne (d : List (Cbor × Cbor)) {k' k : Cbor} (v : Cbor) (h : k' ≠ k) :
    Cbor.lookup k (d.map (fun e => if e.1 == k' then (e.1, v) else e)) = Cbor.lookup k d := by
  induction d with
  | nil => rfl
  | cons e rest ih => by_cases he : e.1 = k' <;> simp_all

theorem Cbor.lookup_dictSet_ne (d : List (Cbor × Cbor)) {k' k : Cbor} (v : Cbor) (h : k' ≠ k) :
    Cbor.lookup k (dictSet d k' v) = Cbor.lookup k d := by
  unfold dictSet
  split
  · exact Cbor.lookup_replace_ne d v h
  · exact Cbor.lookup_append_ne d v h

theorem Cbor.lookup_dictSet_self (d : List (Cbor × Cbor)) (k v : Cbor) : Cbor.lookup k (dictSet d k v) = some v := by
  induction d with
  | nil => simp [dictSet]
  | cons e rest ih =>
    by_cases he : e.1 = k
    · simp [dictSet, he]
    · simp [dictSet_cons_ne he, he, ih]

theorem Cbor.lookup_filter_ne (d : List (Cbor × Cbor)) {k' k : Cbor} (h : k' ≠ k) :
    Cbor.lookup k (d.filter (fun e => !(e.1 == k'))) = Cbor.lookup k d := by
  induction d with
  | nil => rfl
  | cons e rest ih => by_cases he : e.1 = k' <;> simp_all

/-- `dict.update` with keys other than `K` -/
theorem Cbor.lookup_dictUpdate_ne (K : Cbor) (new : List (Cbor × Cbor)) (hnew : ∀ p ∈ new, p.1 ≠ K) :
    ∀ d, Cbor.lookup K (dictUpdate d new) = Cbor.lookup K d := by
  unfold dictUpdate
  induction new with
  | nil => intro d; rfl
  | cons p rest ih =>
    intro d
    rw [List.foldl_cons, ih (fun q hq => hnew q (by simp [hq])), Cbor.lookup_dictSet_ne _ _ (hnew p (by simp))]

theorem dictSet_keys {P : Cbor → Prop} (d : List (Cbor × Cbor)) (k v : Cbor) (hk : P k) (hd : ∀ q ∈ d, P q.1) :
    ∀ q ∈ dictSet d k v, P q.1 := by
  unfold dictSet
  split
  · intro q hq
    obtain ⟨e, he, rfl⟩ := List.mem_map.mp hq
    split <;> exact hd e he
  · intro q hq
    rcases List.mem_append.mp hq with hq | hq
    · exact hd q hq
    · cases List.mem_singleton.mp hq
      exact hk

instance : LawfulBEq KvKey where
  rfl {a} := by cases a; simp [BEq.beq, instBEqKvKey.beq]
  eq_of_beq {a b} h := by cases a; cases b; simpa [BEq.beq, instBEqKvKey.beq] using h

/-- Assigning items one by one into a dictionary appends them in order, as long as no slot that is there or was appended before has
the item's key.  `same e p` is the dictionary's own test "slot `e` has the key of item `p`", `hstep` the fact that an item whose key
no slot has is appended.  The encoder's `dictSet`, `pyDictSet` of `cbor2.loads` and the decoder's `kvSet` are instances. -/
theorem foldl_fresh {ι β : Type} (f : ι → β) (step : List β → ι → List β) (same : β → ι → Prop)
    (hstep : ∀ d p, (∀ e ∈ d, ¬ same e p) → step d p = d ++ [f p]) (ps : List ι) (d : List β)
    (hd : ∀ p ∈ ps, ∀ e ∈ d, ¬ same e p) (hps : ps.Pairwise fun q p => ¬ same (f q) p) :
    ps.foldl step d = d ++ ps.map f := by
  induction ps generalizing d with
  | nil => simp
  | cons p ps ih =>
    obtain ⟨hp, hps⟩ := List.pairwise_cons.mp hps
    rw [List.foldl_cons, hstep d p (hd p (by simp)), ih _ (fun q hq e he => ?_) hps]
    · simp
    · rcases List.mem_append.mp he with he | he
      · exact hd q (by simp [hq]) e he
      · rw [List.mem_singleton.mp he]; exact hp q hq

theorem kvPairs_eq_foldl (es : List (KvKey × Node)) (hm : ∀ e ∈ es, e.1.merge = false) (acc : List (Cbor × Cbor)) :
    kvPairs es acc = es.foldl (fun a e => dictSet a (Cbor.ofInt e.1.id) e.2.toVal) acc := by
  induction es generalizing acc with
  | nil => rfl
  | cons e es ih =>
    obtain ⟨k, n⟩ := e
    have hk : k.merge = false := hm (k, n) (by simp)
    simp only [kvPairs, hk, Bool.false_eq_true, if_false, List.foldl_cons]
    exact ih (fun q hq => hm q (by simp [hq])) _

theorem kvPairs_fresh (es : List (KvKey × Node)) (acc : List (Cbor × Cbor)) (hm : ∀ e ∈ es, e.1.merge = false)
    (hnd : (es.map (·.1.id)).Nodup) (hacc : ∀ e ∈ es, acc.any (fun a => a.1 == Cbor.ofInt e.1.id) = false) :
    kvPairs es acc = acc ++ es.map (fun e => (Cbor.ofInt e.1.id, e.2.toVal)) := by
  rw [kvPairs_eq_foldl es hm]
  exact foldl_fresh _ _ (fun a e => a.1 = Cbor.ofInt e.1.id) (fun d e => dictSet_fresh d _ _) es acc
    (fun e he a ha => by simpa using List.any_eq_false.mp (hacc e he) a ha)
    ((List.pairwise_map.mp hnd).imp fun hne h => hne (Cbor.ofInt_inj h))

end SuitVerif
