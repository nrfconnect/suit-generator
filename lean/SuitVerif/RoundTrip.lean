import SuitVerif.Decode
import SuitVerif.CborProofs
/-! Decode-after-encode at the level the SUIT layer sees it: `deserialize_cbor(cbor2.dumps(v)) = v` for every well-formed
value that `cbor2.loads` hands over unchanged (`deser_enc`), with `validate_cbor` accepting every encoding (`validate_enc`).
These are the base facts of C03 (parse shows what create wrote): every scalar kind of `leafFrom` is a corollary, and every
container case of the decoder starts with them.  At the end: what the SUIT layer makes of `Cbor.ofInt z` (`*_ofInt`). -/
namespace SuitVerif.RoundTrip
open SuitVerif SuitVerif.Py SuitVerif.Decode

theorem validate_head (major n : Nat) (payload : Bytes) (hm : major < 8) (hn : n < 2 ^ 64)
    (hlen : 1 < major → major < 6 → n ≤ payload.length) : validate (head major n ++ payload) = true := by
  rcases head_eq major n with ⟨h24, hh⟩ | ⟨ai, w, h1, h2, hw, _, hnw, hh⟩
  · simp only [hh, List.cons_append, validate, (initial_byte hm (show n < 32 by omega)).2]
    exact if_neg (by omega)
  · obtain ⟨hd, hr⟩ := initial_byte hm (show ai < 32 by omega)
    have hl : (beBytes w n).length = w := beBytes_length _ _
    simp only [hh, List.cons_append, validate, hd, hr, hw, List.take_left' hl, ofBe_beBytes w n (hnw hn)]
    split
    · next hc =>
      have := hlen hc.1 hc.2.1
      simp [hl]; omega
    · rfl

theorem encList_length (xs : List Cbor) : xs.length ≤ (encList xs).length := by
  induction xs with
  | nil => simp [encList]
  | cons x xs ih => have := (depth_le x).2; simp only [encList, List.length_cons, List.length_append]; omega

theorem encPairs_length (xs : List (Cbor × Cbor)) : xs.length ≤ (encPairs xs).length := by
  induction xs with
  | nil => simp [encPairs]
  | cons x xs ih =>
    have := (depth_le x.1).2; simp only [encPairs, List.length_cons, List.length_append]; omega

theorem enc_head (v : Cbor) (hw : v.wf = true) :
    ∃ major n p, enc v = head major n ++ p ∧ major < 8 ∧ n < 2 ^ 64 ∧ (1 < major → major < 6 → n ≤ p.length) := by
  cases v <;> simp only [Cbor.wf, Bool.and_eq_true, decide_eq_true_eq] at hw
  case uint n => exact ⟨0, n, [], by simp [enc], by omega, hw, by omega⟩
  case nint n => exact ⟨1, n, [], by simp [enc], by omega, hw, by omega⟩
  case bstr b => exact ⟨2, _, b, rfl, by omega, hw, fun _ _ => Nat.le_refl _⟩
  case tstr b => exact ⟨3, _, b, rfl, by omega, hw, fun _ _ => Nat.le_refl _⟩
  case arr xs => exact ⟨4, _, _, rfl, by omega, hw.1, fun _ _ => encList_length xs⟩
  case map kvs => exact ⟨5, _, _, rfl, by omega, hw.1, fun _ _ => encPairs_length kvs⟩
  case tag t x => exact ⟨6, t, _, rfl, by omega, hw.1, by omega⟩
  case simple n => exact ⟨7, n, [], by simp [enc], by omega, by omega, by omega⟩

theorem validate_enc (v : Cbor) (hw : v.wf = true) : validate (enc v) = true := by
  obtain ⟨major, n, p, he, hm, hn, hl⟩ := enc_head v hw
  rw [he]; exact validate_head major n p hm hn hl

theorem enc_head_ne_ff (v : Cbor) (hw : v.wf = true) : (enc v).head? ≠ some 0xFF := by
  obtain ⟨major, n, p, he, _⟩ := enc_head v hw
  obtain ⟨ai, rest, hh, hai⟩ := head_first major n
  -- 0xFF would be major type 7 with additional information 31
  rw [he, hh]
  intro hc
  have := congrArg (Option.map UInt8.toNat) hc
  simp at this
  omega

/-- `norm v = some v`: valid UTF-8 text, no repeated map keys -/
theorem deser_enc (v : Cbor) (hw : v.wf = true) (hn : norm v = some v) : deser (enc v) = .ok v := by
  have hl : loads (enc v) = some v := by simpa using loads_enc v [] hw
  simp [deser, validate_enc v hw, enc_head_ne_ff v hw, hl, hn]

theorem norm_ofInt (z : Int) : norm (Cbor.ofInt z) = some (Cbor.ofInt z) := by
  unfold Cbor.ofInt; split <;> rfl

theorem intLike_ofInt (z : Int) : intLike (Cbor.ofInt z) = some z := by
  rw [← Cbor.toInt_ofInt z]; unfold Cbor.ofInt; split <;> rfl

theorem ensure_ofInt (z : Int) : ensure (Cbor.ofInt z) = enc (Cbor.ofInt z) := by
  unfold Cbor.ofInt; split <;> rfl

theorem ensure_wrapped (n : Node) : ensure (Node.toVal (.wrapped n)) = n.toBytes := by
  simp [Node.toVal, ensure]

theorem keyCanon_ofInt (z : Int) : keyCanon (Cbor.ofInt z) = Cbor.ofInt z := by
  unfold Cbor.ofInt; split <;> rfl

theorem lookupId_ofInt (es : List Entry) (z : Int) : lookupId es (Cbor.ofInt z) = es.find? (fun e => e.id == z) := by
  simp [lookupId, intLike_ofInt]

theorem deser_enc_ofInt (z : Int) (h : -(2 ^ 64 : Int) ≤ z ∧ z < 2 ^ 64) : deser (enc (Cbor.ofInt z)) = .ok (Cbor.ofInt z) :=
  deser_enc _ (Cbor.ofInt_wf z h) (norm_ofInt z)

end SuitVerif.RoundTrip
