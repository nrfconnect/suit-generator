import SuitVerif.Encode
import SuitVerif.Except
/-! Node-level facts about the digest updates of `create` (C01, C05): what `update_digest` and
`update_severable_digests` leave in the tree that is then serialised (one inversion lemma per update, `digestsOk_updates`),
over lemmas about `peel`/`repeel` and `kvGet`/`kvReplace`; `create_eq_ok` takes `create` apart into its three steps and the serialisation. -/
namespace SuitVerif.Encode
open SuitVerif SuitVerif.Py SuitVerif.Decode

/-- the digest bytes stored in a digest node `[alg, bytes]` (under any wrappers) -/
def digestBytes (n : Node) : Option Bytes :=
  match peel n with
  | .tuple _ (_ :: b :: _) => match peel b with
    | .leaf (.bstr d) _ => some d
    | _ => none
  | _ => none

def isCore : Node → Bool
  | .wrapped _ => false
  | .alt _ _ _ => false
  | _ => true

theorem peel_isCore : (n : Node) → isCore (peel n) = true := by
  intro n
  fun_induction peel n <;> simp_all [isCore]

theorem peel_repeel (f : Node → Node) (n : Node) : peel (repeel f n) = peel (f (peel n)) := by
  fun_induction peel n with
  | case1 n ih => exact ih
  | case2 i c n ih => exact ih
  | case3 n h1 h2 => rw [repeel] <;> assumption

theorem repeel_const (f : Node → Node) (n : Node) : repeel f n = repeel (fun _ => f (peel n)) n := by
  fun_induction peel n with
  | case1 n ih => rw [repeel, repeel, ih]
  | case2 i c n ih => rw [repeel, repeel, ih]
  | case3 n h1 h2 => rw [repeel, repeel] <;> assumption

theorem setDigestBytes_spec (d : Bytes) (n : Node) (alg : String) (h : digestAlg n = some alg) :
    digestAlg (setDigestBytes d n) = some alg ∧ digestBytes (setDigestBytes d n) = some d := by
  unfold digestAlg digestBytes setDigestBytes at *
  rw [peel_repeel]
  generalize peel n = core at *
  split at h
  · exact ⟨h, rfl⟩
  · cases h

theorem kvGet_cons (e : KvKey × Node) (es : List (KvKey × Node)) (id : Int) :
    kvGet (e :: es) id = if e.1.id == id && !e.1.merge then some e.2 else kvGet es id := by
  unfold kvGet
  rw [List.find?_cons]
  cases (e.1.id == id && !e.1.merge) <;> rfl

theorem kvGet_kvReplace (es : List (KvKey × Node)) (id k : Int) (x : Node) :
    kvGet (kvReplace es id x) k = if id = k then (kvGet es k).map (fun _ => x) else kvGet es k := by
  induction es with
  | nil => simp [kvGet, kvReplace]
  | cons e rest ih =>
    rw [kvReplace, List.map_cons, ← kvReplace, kvGet_cons, kvGet_cons, ih]
    by_cases hk : id = k
    · subst hk; cases hc : (e.1.id == id && !e.1.merge) <;> simp [hc]
    · cases hc : (e.1.id == id && !e.1.merge)
      · simp [hk]
      · have : e.1.id ≠ k := by simp at hc; rw [hc.1]; exact hk
        simp [hk, this]

theorem kvGet_kvReplace_same {es : List (KvKey × Node)} {id : Int} {old : Node} (n : Node) (h : kvGet es id = some old) :
    kvGet (kvReplace es id n) id = some n := by
  simp [kvGet_kvReplace, h]

theorem kvGet_kvReplace_other (es : List (KvKey × Node)) {id id' : Int} (n : Node) (hne : id ≠ id') :
    kvGet (kvReplace es id n) id' = kvGet es id' := by
  rw [kvGet_kvReplace, if_neg hne]

/-- what "severed member `key` is consistent" means in a tree: if the manifest references it by digest and the
envelope holds it, the recorded digest is the declared hash of the member's `to_cbor()` bytes -/
def SevOk (cx : Ctx) (es mes : List (KvKey × Node)) (key : Int) : Prop :=
  ∀ entry sev, kvGet mes key = some entry → isDigestAlt entry = true → kvGet es key = some sev →
    ∃ alg hd, digestAlg entry = some alg ∧ cx.hash alg sev.toBytes = some hd ∧ digestBytes entry = some hd

theorem isDigestAlt_setDigestBytes (d : Bytes) (n : Node) (h : isDigestAlt n = true) :
    isDigestAlt (setDigestBytes d n) = true := by
  cases n with
  | tuple ks vals => rcases vals with _ | ⟨a, _ | ⟨b, rest⟩⟩ <;> exact h
  | _ => exact h

theorem updateSeverable1_ok {cx : Ctx} {env env' : Node} {key : Int} (h : updateSeverable1 cx env key = .ok env') :
    ∃ t name es m mes, env = .tagged t name (.kv es) ∧ kvGet es 3 = some m ∧ peel m = .kv mes ∧
      ((env' = env ∧ ∀ entry, kvGet mes key = some entry → isDigestAlt entry = true → kvGet es key = none) ∨
       ∃ entry sev alg d, kvGet mes key = some entry ∧ isDigestAlt entry = true ∧ kvGet es key = some sev ∧
        digestAlg entry = some alg ∧ cx.hash alg sev.toBytes = some d ∧
        env' = .tagged t name (.kv (kvReplace es 3 (repeel (fun _ => .kv (kvReplace mes key (setDigestBytes d entry))) m)))) := by
  unfold updateSeverable1 at h
  split at h
  · rename_i t name es
    split at h
    · cases h
    · rename_i m hm
      split at h
      · rename_i mes hmes
        refine ⟨t, name, es, m, mes, rfl, hm, hmes, ?_⟩
        split at h
        · rename_i hnone
          exact .inl ⟨by cases h; rfl, fun entry he => by rw [hnone] at he; cases he⟩
        · rename_i entry hentry
          split at h
          · rename_i hnd
            refine .inl ⟨by cases h; rfl, fun entry' he hda => ?_⟩
            rw [hentry] at he; cases he; simp [hda] at hnd
          · rename_i hda
            split at h
            · rename_i hsev
              exact .inl ⟨by cases h; rfl, fun _ _ _ => hsev⟩
            · rename_i sev hsev
              split at h
              · cases h
              · rename_i alg halg
                split at h
                · cases h
                · rename_i d hd
                  exact .inr ⟨entry, sev, alg, d, hentry, by simpa using hda, hsev, halg, hd, by cases h; rfl⟩
      · cases h
  · cases h

theorem authDigest_eq_some {es : List (KvKey × Node)} {d : Node} :
    authDigest es = some d ↔ ∃ a ks rest, kvGet es 2 = some a ∧ peel a = .tuple ks (d :: rest) := by
  unfold authDigest
  constructor
  · intro h
    split at h
    · rename_i a ha
      split at h
      · rename_i ks d' rest hp
        cases h
        exact ⟨a, ks, rest, ha, hp⟩
      · cases h
    · cases h
  · rintro ⟨a, ks, rest, ha, hp⟩
    simp [ha, hp]

theorem manifestDigest_eq_ok {cx : Ctx} {es : List (KvKey × Node)} {alg : String} {hd : Bytes} :
    manifestDigest cx es alg = .ok hd ↔ ∃ m, kvGet es 3 = some m ∧ cx.hash alg m.toBytes = some hd := by
  unfold manifestDigest
  split
  · simp_all
  · split <;> simp_all

theorem updateDigest_ok {cx : Ctx} {env env' : Node} (h : updateDigest cx env = .ok env') :
    ∃ t name es a ks d0 rest alg m hd, env = .tagged t name (.kv es) ∧ kvGet es 2 = some a ∧
      peel a = .tuple ks (d0 :: rest) ∧ digestAlg d0 = some alg ∧ kvGet es 3 = some m ∧ cx.hash alg m.toBytes = some hd ∧
      env' = .tagged t name (.kv (kvReplace es 2 (repeel (fun _ => .tuple ks (setDigestBytes hd d0 :: rest)) a))) := by
  unfold updateDigest at h
  split at h
  · rename_i t name es
    split at h
    · cases h
    · rename_i a ha
      split at h
      · cases h
      · rename_i d0 hd0
        split at h
        · cases h
        · rename_i alg halg
          obtain ⟨hd, hm, h⟩ := Except.bind_eq_ok.mp h
          obtain ⟨a', ks, rest, ha', hpeel⟩ := authDigest_eq_some.mp hd0
          obtain ⟨m, hm3, hhash⟩ := manifestDigest_eq_ok.mp hm
          rw [ha] at ha'
          cases ha'
          refine ⟨t, name, es, a, ks, d0, rest, alg, m, hd, rfl, ha, hpeel, halg, hm3, hhash, ?_⟩
          cases h
          rw [repeel_const, hpeel]
  · cases h

/-- the invariant of the loop of `update_severable_digests`, for one key `k`: `env` is an envelope with a manifest map, and the digest
the manifest holds for member `k` (if it holds one and the member is there) is consistent.  Existential, so that a loop that is not
empty also tells the shape of its result -/
def SevAt (cx : Ctx) (env : Node) (k : Int) : Prop :=
  ∃ t name es m mes, env = .tagged t name (.kv es) ∧ kvGet es 3 = some m ∧ peel m = .kv mes ∧ SevOk cx es mes k

theorem SevAt.sevOk {cx : Ctx} {t : Nat} {name : String} {es mes : List (KvKey × Node)} {m : Node} {k : Int}
    (h : SevAt cx (.tagged t name (.kv es)) k) (hm : kvGet es 3 = some m) (hmes : peel m = .kv mes) : SevOk cx es mes k := by
  obtain ⟨_, _, _, _, _, ⟨⟩, hm', hmes', hok⟩ := h
  cases hm.symm.trans hm'
  cases hmes.symm.trans hmes'
  exact hok

theorem updateSeverable1_sevAt {cx : Ctx} {env env' : Node} {key k : Int} (h : updateSeverable1 cx env key = .ok env')
    (hk3 : k ≠ 3) (hk : k = key ∨ SevAt cx env k) : SevAt cx env' k := by
  -- `k ≠ 3`: the step replaces member 3 (the manifest, with the new digest in it), so only the other members are the same afterwards
  obtain ⟨t, name, es, m, mes, rfl, hm, hmes, hcase⟩ := updateSeverable1_ok h
  have hold : k = key ∨ SevOk cx es mes k := hk.imp_right (·.sevOk hm hmes)
  rcases hcase with ⟨rfl, hskip⟩ | ⟨entry, sev, alg, d, hentry, -, hsev, halg, hhash, rfl⟩
  · refine ⟨t, name, es, m, mes, rfl, hm, hmes, ?_⟩
    rcases hold with rfl | hold
    · intro entry sev he hda hs
      rw [hskip entry he hda] at hs
      cases hs
    · exact hold
  · refine ⟨t, name, _, _, _, rfl, kvGet_kvReplace_same _ hm, by rw [peel_repeel]; rfl, ?_⟩
    intro entry' sev' he hda hs
    rw [kvGet_kvReplace_other es _ (Ne.symm hk3)] at hs
    by_cases hkk : key = k
    · subst hkk
      rw [kvGet_kvReplace_same _ hentry] at he
      cases he
      rw [hsev] at hs
      cases hs
      exact ⟨alg, d, (setDigestBytes_spec d entry alg halg).1, hhash, (setDigestBytes_spec d entry alg halg).2⟩
    · rw [kvGet_kvReplace_other mes _ hkk] at he
      exact (hold.resolve_left (Ne.symm hkk)) entry' sev' he hda hs

theorem updateSeverable_spec {cx : Ctx} {env env' : Node} (h : updateSeverable cx env = .ok env') :
    ∃ t name es m mes, env' = .tagged t name (.kv es) ∧ kvGet es 3 = some m ∧ peel m = .kv mes ∧
      ∀ k ∈ severableKeys, SevOk cx es mes k := by
  have := Except.foldlM_invariant (fun done e => ∀ k ∈ done, k ≠ 3 → SevAt cx e k)
    (fun done key e e' hI h1 k hk h3 => updateSeverable1_sevAt h1 h3
      ((List.mem_append.mp hk).symm.imp List.mem_singleton.mp (hI k · h3)))
    severableKeys [] env env' (fun _ h => nomatch h) h
  -- the loop is not empty: any of its keys tells that `env'` is an envelope with a manifest map
  obtain ⟨t, name, es, m, mes, rfl, hm, hmes, -⟩ := this 23 (by decide) (by decide)
  exact ⟨t, name, es, m, mes, rfl, hm, hmes,
    fun k hk => (this k hk (by rintro rfl; simp [severableKeys] at hk)).sevOk hm hmes⟩

theorem updateDigest_spec {cx : Ctx} {env env' : Node} (h : updateDigest cx env = .ok env') :
    ∃ t name es es' m d' alg hd,
      env = .tagged t name (.kv es) ∧ env' = .tagged t name (.kv es')
      ∧ (∀ k, k ≠ 2 → kvGet es' k = kvGet es k) ∧ kvGet es' 3 = some m
      ∧ authDigest es' = some d' ∧ digestAlg d' = some alg
      ∧ cx.hash alg m.toBytes = some hd ∧ digestBytes d' = some hd := by
  obtain ⟨t, name, es, a, ks, d0, rest, alg, m, hd, rfl, ha, -, halg, hm, hhash, rfl⟩ := updateDigest_ok h
  refine ⟨t, name, es, _, m, setDigestBytes hd d0, alg, hd, rfl, rfl, fun k hk => kvGet_kvReplace_other es _ (Ne.symm hk),
    ?_, ?_, (setDigestBytes_spec hd d0 alg halg).1, hhash, (setDigestBytes_spec hd d0 alg halg).2⟩
  · rw [kvGet_kvReplace_other es _ (by decide), hm]
  · exact authDigest_eq_some.mpr ⟨_, ks, rest, kvGet_kvReplace_same _ ha, by rw [peel_repeel]; rfl⟩

/-- the digests of a serialised tree are consistent: root and every severed member -/
def DigestsOk (cx : Ctx) (n : Node) : Prop :=
  ∃ t name es m mes d alg hd,
    n = .tagged t name (.kv es) ∧ kvGet es 3 = some m ∧ peel m = .kv mes
    ∧ authDigest es = some d ∧ digestAlg d = some alg ∧ cx.hash alg m.toBytes = some hd ∧ digestBytes d = some hd
    ∧ ∀ k ∈ severableKeys, SevOk cx es mes k

theorem digestsOk_updates {cx : Ctx} {n0 n1 n2 : Node} (h1 : updateSeverable cx n0 = .ok n1)
    (h2 : updateDigest cx n1 = .ok n2) : DigestsOk cx n2 := by
  obtain ⟨t, name, es1, es2, m2, d', alg, hd, rfl, rfl, hkeep, hm2, hauth, halg, hhash, hbytes⟩ := updateDigest_spec h2
  obtain ⟨_, _, _, m, mes, he, hm1, hmes, hsev⟩ := updateSeverable_spec h1
  cases he
  obtain rfl : m = m2 := by rw [hkeep 3 (by decide), hm1] at hm2; exact Option.some.inj hm2
  refine ⟨t, name, es2, m, mes, d', alg, hd, rfl, hm2, hmes, hauth, halg, hhash, hbytes, ?_⟩
  intro k hk entry sev he hda hs
  -- `update_digest` replaced entry 2 only: the severed members are the same objects
  rw [hkeep k (by rintro rfl; simp [severableKeys] at hk)] at hs
  exact hsev k hk entry sev he hda hs

theorem create_eq_ok {cx : Ctx} {fuel : Nat} {o : Obj} {out : Bytes} :
    create cx fuel o = .ok out ↔ ∃ f n0 n1 n2, fuel = f + 1 ∧ fromObj cx f cx.schema.envelope o = .ok n0 ∧
      updateSeverable cx n0 = .ok n1 ∧ updateDigest cx n1 = .ok n2 ∧ n2.toBytes = out := by
  cases fuel with
  | zero => simp [create]
  | succ f =>
    rw [create]
    simp only [Except.bind_eq_ok, pure, Except.pure, Except.ok.injEq, Nat.add_right_cancel_iff, exists_and_left, exists_eq_left']

end SuitVerif.Encode
