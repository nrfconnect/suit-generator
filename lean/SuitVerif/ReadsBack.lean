import SuitVerif.RoundTrip
/-! Compositional read-back lemmas for C03: `Reads g s c b n` says that the decoder of class `c`, given the bytes `b`,
builds exactly the node `n` (for every sufficient recursion budget).  The scalar kinds are covered by `Props/C03`; here
are the inductive steps for the containers: byte-string wrapping, tags, plain lists (not grouped), `[code, argument]` pairs,
positional structures, and unions given that the earlier alternatives reject the bytes (`Rejects`).  Each step feeds the
child exactly what the Python hands it (`ensure_cbor` of the decoded item). -/
namespace SuitVerif.ReadsBack
open SuitVerif SuitVerif.Py SuitVerif.Decode SuitVerif.RoundTrip

/-- `f fuel = a` for every sufficient budget.  `Reads g s c b n` below is `Eventually (fromBytes g s · c b) (.ok n)` written out,
`Rejects g s c b` the same with `.error .valueError` (both by `rfl`, so the three lemmas apply to them as they stand), and "the loop
returns …" is stated with it for each of the decoder's loops; the three lemmas are all the steps need to know about budgets. -/
def Eventually {α : Type} (f : Nat → α) (a : α) : Prop := ∃ f0, ∀ fuel, f0 ≤ fuel → f fuel = a

namespace Eventually
variable {α α₁ α₂ : Type} {f : Nat → α} {a : α} {f₁ : Nat → α₁} {a₁ : α₁} {f₂ : Nat → α₂} {a₂ : α₂}

theorem step₂ (h₁ : Eventually f₁ a₁) (h₂ : Eventually f₂ a₂) (hs : ∀ k, f₁ k = a₁ → f₂ k = a₂ → f (k + 1) = a) :
    Eventually f a := by
  obtain ⟨n₁, h₁⟩ := h₁
  obtain ⟨n₂, h₂⟩ := h₂
  refine ⟨max n₁ n₂ + 1, fun fuel hf => ?_⟩
  obtain ⟨k, rfl⟩ : ∃ k, fuel = k + 1 := ⟨fuel - 1, by omega⟩
  exact hs k (h₁ k (by omega)) (h₂ k (by omega))

theorem step (h : Eventually f₁ a₁) (hs : ∀ k, f₁ k = a₁ → f (k + 1) = a) : Eventually f a :=
  step₂ h h fun k hk _ => hs k hk

theorem of_succ (hs : ∀ k, f (k + 1) = a) : Eventually f a :=
  step (f₁ := fun _ => ()) ⟨0, fun _ _ => rfl⟩ fun k _ => hs k

end Eventually

def Reads (g : Guards) (s : Schema) (c : Cls) (b : Bytes) (n : Node) : Prop :=
  ∃ f0, ∀ fuel, f0 ≤ fuel → fromBytes g s fuel c b = .ok n

/-- trial decoding: the alternative that built the node is the first one that accepts its bytes -/
def Rejects (g : Guards) (s : Schema) (c : Cls) (b : Bytes) : Prop :=
  ∃ f0, ∀ fuel, f0 ≤ fuel → fromBytes g s fuel c b = .error .valueError

variable {g : Guards} {s : Schema}

theorem fromBytes_cbstr {c inner : Cls} (hty : s.ty c = some (.cbstr inner)) (fuel : Nat) (b : Bytes) :
    fromBytes g s (fuel + 1) c b = (fromBytes g s fuel inner b).map .wrapped := by
  simp only [fromBytes, hty, leafFrom]
  cases fromBytes g s fuel inner b <;> rfl

theorem fromBytes_tag {c child : Cls} {t : Nat} {name : String} {v : Cbor} (hty : s.ty c = some (.tag t name child))
    (hw : (Cbor.tag t v).wf = true) (hn : norm v = some v) (fuel : Nat) :
    fromBytes g s (fuel + 1) c (enc (.tag t v)) = (fromBytes g s fuel child (enc v)).map (.tagged t name) := by
  have hd : deser (enc (.tag t v)) = .ok (.tag t v) := deser_enc _ hw (by simp [norm, hn])
  simp only [fromBytes, hty, leafFrom, hd, bind, Except.bind, if_true]
  cases fromBytes g s fuel child (enc v) <;> rfl

theorem reads_wrapped {c inner : Cls} {b : Bytes} {n : Node}
    (hty : s.ty c = some (.cbstr inner)) (h : Reads g s inner b n) : Reads g s c b (.wrapped n) :=
  Eventually.step h fun k hk => by rw [fromBytes_cbstr hty, hk]; rfl

theorem rejects_wrapped {c inner : Cls} {b : Bytes}
    (hty : s.ty c = some (.cbstr inner)) (h : Rejects g s inner b) : Rejects g s c b :=
  Eventually.step h fun k hk => by rw [fromBytes_cbstr hty, hk]; rfl

theorem reads_tagged {c child : Cls} {t : Nat} {name : String} {v : Cbor} {n : Node}
    (hty : s.ty c = some (.tag t name child)) (hw : (Cbor.tag t v).wf = true) (hn : norm v = some v)
    (h : Reads g s child (enc v) n) : Reads g s c (enc (.tag t v)) (.tagged t name n) :=
  Eventually.step h fun k hk => by rw [fromBytes_tag hty hw hn, hk]; rfl

theorem fromList_reads {child : Cls} (xs : List Node) (h : ∀ x ∈ xs, Reads g s child (ensure x.toVal) x) :
    Eventually (fun fuel => fromList g s fuel child (valList xs)) (.ok xs) := by
  induction xs with
  | nil => exact .of_succ fun _ => by simp only [valList, fromList]
  | cons x xs ih =>
    exact Eventually.step₂ (h x (by simp)) (ih fun y hy => h y (by simp [hy])) fun k h1 h2 => by
      simp only [valList, fromList, h1, h2, bind, Except.bind, pure, Except.pure]

theorem reads_list {g : Guards} {s : Schema} {c child : Cls} (xs : List Node)
    (hty : s.ty c = some (.list child none))
    (hw : (Cbor.arr (valList xs)).wf = true) (hn : norm (.arr (valList xs)) = some (.arr (valList xs)))
    (h : ∀ x ∈ xs, Reads g s child (ensure x.toVal) x) :
    Reads g s c (enc (.arr (valList xs))) (.list false xs) :=
  Eventually.step (fromList_reads xs h) fun k hk => by
    simp only [fromBytes, hty, leafFrom, deser_enc _ hw hn, hk, bind, Except.bind, pure, Except.pure, Option.isSome_none]

theorem rejects_list {c child : Cls} {n : Nat} {b : Bytes} {xs rest : List Cbor} {x : Cbor}
    (hty : s.ty c = some (.list child (some n))) (hd : deser b = .ok (.arr xs))
    (hx : chunk n (xs.length + 1) xs = x :: rest) (h : Rejects g s child (ensure x)) : Rejects g s c b := by
  have hl : Eventually (fun fuel => fromList g s fuel child (x :: rest)) (.error .valueError) :=
    Eventually.step h fun k hk => by simp only [fromList, hk, bind, Except.bind]
  exact Eventually.step hl fun k hk => by simp only [fromBytes, hty, leafFrom, hd, hx, hk, bind, Except.bind]

/-- a `[code, argument]` pair (conditions, directives, version comparisons) -/
theorem reads_kvTuple {g : Guards} {s : Schema} {c : Cls} {es : List Entry} (e : Entry) (x : Node)
    (hty : s.ty c = some (.keyValueTuple es))
    (hl : lookupId es (Cbor.ofInt e.id) = some e)
    (hw : (Cbor.arr [Cbor.ofInt e.id, x.toVal]).wf = true)
    (hn : norm (.arr [Cbor.ofInt e.id, x.toVal]) = some (.arr [Cbor.ofInt e.id, x.toVal]))
    (h : Reads g s e.cls (ensure x.toVal) x) :
    Reads g s c (enc (.arr [Cbor.ofInt e.id, x.toVal])) (.kvTuple [(entryKey e, x)]) :=
  Eventually.step h fun k hk => by
    simp only [fromBytes, hty, leafFrom, deser_enc _ hw hn, hl, hk, bind, Except.bind, pure, Except.pure]

theorem kvTuple_toBytes (e : Entry) (x : Node) :
    (Node.kvTuple [(entryKey e, x)]).toBytes = enc (.arr [Cbor.ofInt e.id, x.toVal]) := by
  simp [Node.toBytes, kvFlat, entryKey]

theorem rejects_kvTuple {c : Cls} {es : List Entry} {b : Bytes} {k x : Cbor} (hty : s.ty c = some (.keyValueTuple es))
    (hd : deser b = .ok (.arr [k, x])) (hl : lookupId es k = none) : Rejects g s c b :=
  Eventually.of_succ fun _ => by simp only [fromBytes, hty, leafFrom, hd, hl, bind, Except.bind]

theorem list_toBytes (xs : List Node) : (Node.list false xs).toBytes = enc (.arr (valList xs)) := by
  simp [Node.toBytes]

theorem tagged_toBytes (t : Nat) (name : String) (n : Node) : (Node.tagged t name n).toBytes = enc (.tag t n.toVal) := by
  simp [Node.toBytes]

theorem fromBytes_leaf {c : Cls} {ty : Ty} {b : Bytes} {r : R Node}
    (hty : s.ty c = some ty) (hl : leafFrom g ty b = some r) (fuel : Nat) : fromBytes g s (fuel + 1) c b = r := by
  simp only [fromBytes, hty, hl]

theorem reads_leaf {c : Cls} {ty : Ty} {b : Bytes} {n : Node}
    (hty : s.ty c = some ty) (hl : leafFrom g ty b = some (.ok n)) : Reads g s c b n :=
  Eventually.of_succ (fromBytes_leaf hty hl)

/-- the fields of a positional structure without a repeating last member, each read by its class -/
inductive Fields (g : Guards) (s : Schema) : List (String × Cls) → List Node → Prop
  | nil : Fields g s [] []
  | cons {k : String} {c : Cls} {v : Node} {es : List (String × Cls)} {vals : List Node} :
      k.endsWith "*" = false → Reads g s c (ensure v.toVal) v → Fields g s es vals → Fields g s ((k, c) :: es) (v :: vals)

theorem fromTuple_fields {es tail : List (String × Cls)} {vals more : List Node} {rest : List Cbor} (h : Fields g s es vals)
    (ht : Eventually (fun fuel => fromTuple g s fuel tail rest) (.ok more)) :
    Eventually (fun fuel => fromTuple g s fuel (es ++ tail) (valList vals ++ rest)) (.ok (vals ++ more)) := by
  induction h with
  | nil => exact ht
  | cons hstar hr _ ih =>
    exact Eventually.step₂ hr ih fun k h1 h2 => by
      simp only [List.cons_append, valList, fromTuple, hstar, Bool.false_eq_true, if_false, h1, h2, bind, Except.bind, pure,
        Except.pure]

theorem fromTuple_nil : Eventually (fun fuel => fromTuple g s fuel [] []) (.ok []) := .of_succ fun _ => by rw [fromTuple]

theorem reads_members {c : Cls} {es : List (String × Cls)} {vals : List Node} (hty : s.ty c = some (.tupleNamed es))
    (hw : (Cbor.arr (valList vals)).wf = true) (hn : norm (.arr (valList vals)) = some (.arr (valList vals)))
    (ht : Eventually (fun fuel => fromTuple g s fuel es (valList vals)) (.ok vals)) :
    Reads g s c (enc (.arr (valList vals))) (.tuple (es.map (·.1)) vals) :=
  Eventually.step ht fun k hk => by
    simp only [fromBytes, hty, leafFrom, deser_enc _ hw hn, hk, bind, Except.bind, pure, Except.pure]

theorem reads_tuple {c : Cls} (es : List (String × Cls)) (vals : List Node)
    (hty : s.ty c = some (.tupleNamed es))
    (hw : (Cbor.arr (valList vals)).wf = true) (hn : norm (.arr (valList vals)) = some (.arr (valList vals)))
    (h : Fields g s es vals) :
    Reads g s c (enc (.arr (valList vals))) (.tuple (es.map (·.1)) vals) :=
  reads_members hty hw hn (by simpa using fromTuple_fields h fromTuple_nil)

/-- the repeating last member (`name*`) occurs zero times: an authentication wrapper without signature blocks -/
theorem reads_tuple_star {c : Cls} (es : List (String × Cls)) (vals : List Node) (kstar : String)
    (cstar : Cls) (hty : s.ty c = some (.tupleNamed (es ++ [(kstar, cstar)]))) (hstar : kstar.endsWith "*" = true)
    (hw : (Cbor.arr (valList vals)).wf = true) (hn : norm (.arr (valList vals)) = some (.arr (valList vals)))
    (h : Fields g s es vals) :
    Reads g s c (enc (.arr (valList vals))) (.tuple ((es ++ [(kstar, cstar)]).map (·.1)) vals) := by
  have hnone : Eventually (fun fuel => fromStar g s fuel cstar []) (.ok ([], [])) := .of_succ fun _ => by rw [fromStar]
  have hrep : Eventually (fun fuel => fromTuple g s fuel [(kstar, cstar)] []) (.ok []) :=
    Eventually.step₂ hnone (fromTuple_nil (g := g) (s := s)) fun k h1 h2 => by
      simp only [fromTuple, hstar, if_true, h1, h2, bind, Except.bind, pure, Except.pure, List.append_nil]
  exact reads_members hty hw hn (by simpa using fromTuple_fields h hrep)

theorem fromAlts_skip {pre rest : List Cls} {i : Nat} {b : Bytes} {r : R Node} (hpre : ∀ c' ∈ pre, Rejects g s c' b)
    (h : Eventually (fun fuel => fromAlts g s fuel rest (i + pre.length) b) r) :
    Eventually (fun fuel => fromAlts g s fuel (pre ++ rest) i b) r := by
  induction pre generalizing i with
  | nil => exact h
  | cons c' pre ih =>
    have h' := ih (i := i + 1) (fun x hx => hpre x (by simp [hx])) (by rw [Nat.add_right_comm]; exact h)
    exact Eventually.step₂ (hpre c' (by simp)) h' fun k h1 h2 => by simp only [List.cons_append, fromAlts, h1, h2]

theorem reads_union {c : Cls} (pre : List Cls) (ci : Cls) (post : List Cls) (b : Bytes) (n : Node)
    (hty : s.ty c = some (.union (pre ++ ci :: post)))
    (hpre : ∀ c' ∈ pre, Rejects g s c' b) (h : Reads g s ci b n) :
    Reads g s c b (.alt pre.length (s.name ci) n) := by
  have ha : Eventually (fun fuel => fromAlts g s fuel (pre ++ ci :: post) 0 b) (.ok (.alt pre.length (s.name ci) n)) :=
    fromAlts_skip hpre (Eventually.step h fun k hk => by simp only [fromAlts, hk, Nat.zero_add])
  exact Eventually.step ha fun k hk => by simp only [fromBytes, hty, leafFrom, hk]

theorem rejects_union {c : Cls} {alts : List Cls} {b : Bytes} (hty : s.ty c = some (.union alts))
    (h : ∀ c' ∈ alts, Rejects g s c' b) : Rejects g s c b := by
  have ha := fromAlts_skip (i := 0) (rest := []) h (.of_succ fun _ => by rw [fromAlts])
  rw [List.append_nil] at ha
  exact Eventually.step ha fun k hk => by simp only [fromBytes, hty, leafFrom, hk]

/-! ### discharging a first-match premise: a digest is never taken for a command sequence

A severable member is a union of (byte-string-wrapped) command sequence and digest, the command sequence first.  The bytes of a
digest `[alg, bytes]` read as a command sequence would be one command with code `alg`; no condition and no directive has such
a code, so the first alternative rejects them. -/
theorem digest_rejected_as_sequence {g : Guards} {s : Schema} (cSeq cL cCmd cCond cDir : Cls) (esC esD : List Entry)
    (a : Int) (b : Bytes)
    (h1 : s.ty cSeq = some (.cbstr cL)) (h2 : s.ty cL = some (.list cCmd (some 2)))
    (h3 : s.ty cCmd = some (.union [cCond, cDir]))
    (h4 : s.ty cCond = some (.keyValueTuple esC)) (h5 : s.ty cDir = some (.keyValueTuple esD))
    (hc : lookupId esC (Cbor.ofInt a) = none) (hd : lookupId esD (Cbor.ofInt a) = none)
    (hw : (Cbor.arr [Cbor.ofInt a, .bstr b]).wf = true) (hn : norm (Cbor.ofInt a) = some (Cbor.ofInt a)) :
    Rejects g s cSeq (enc (.arr [Cbor.ofInt a, .bstr b])) := by
  have hd0 : deser (enc (.arr [Cbor.ofInt a, .bstr b])) = .ok (.arr [Cbor.ofInt a, .bstr b]) :=
    deser_enc _ hw (by simp [norm, normList, hn])
  -- the whole pair is the one command of the sequence
  have hcmd : Rejects g s cCmd (ensure (.arr [Cbor.ofInt a, .bstr b])) :=
    rejects_union h3 (by simpa using ⟨rejects_kvTuple h4 hd0 hc, rejects_kvTuple h5 hd0 hd⟩)
  exact rejects_wrapped h1 (rejects_list h2 hd0 rfl hcmd)

end SuitVerif.ReadsBack
