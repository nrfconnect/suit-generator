import SuitVerif.Bytes
/-! The verifier's own strict Intel-HEX reader, and memory images as lists of segments.
Every hex file the implementation writes is read back with `IHex.read`, so the storage, MPI and update
properties are judged on the memory image the file denotes (record types 00, 01, 02, 04; length and
checksum verified; data after the end-of-file record rejected; overlapping data rejected). -/
namespace SuitVerif.IHex
open SuitVerif

/-- a memory image: segments (start address, bytes), in any order -/
abbrev Image := List (Nat × Bytes)

def Image.get (img : Image) (a : Nat) : Option UInt8 :=
  match img with
  | [] => none
  | (s, b) :: rest => if s ≤ a ∧ a < s + b.length then b[a - s]? else Image.get rest a

def insertSeg (seg : Nat × Bytes) : List (Nat × Bytes) → List (Nat × Bytes)
  | [] => [seg]
  | x :: xs => if seg.1 ≤ x.1 then seg :: x :: xs else x :: insertSeg seg xs

def sortSegs (l : List (Nat × Bytes)) : List (Nat × Bytes) := l.foldr insertSeg []

/-- merge sorted segments; `none` if two segments overlap.  `cur` = (start, end, chunks in reverse) of the
run being built, `acc` = finished runs in reverse. -/
def mergeGo (cur : Nat × Nat × List Bytes) (acc : List (Nat × Bytes)) : List (Nat × Bytes) → Option (List (Nat × Bytes))
  | [] => some ((cur.1, cur.2.2.reverse.flatten) :: acc).reverse
  | (s, b) :: rest =>
    if s < cur.2.1 then none
    else if s = cur.2.1 then mergeGo (cur.1, s + b.length, b :: cur.2.2) acc rest
    else mergeGo (s, s + b.length, [b]) ((cur.1, cur.2.2.reverse.flatten) :: acc) rest

def mergeSorted : List (Nat × Bytes) → Option (List (Nat × Bytes))
  | [] => some []
  | (s, b) :: rest => mergeGo (s, s + b.length, [b]) [] rest

/-- canonical form: non-empty segments sorted by address, contiguous ones joined; `none` on overlap -/
def canon (img : Image) : Option Image := mergeSorted (sortSegs (img.filter (fun s => s.2 ≠ [])))

structure RState where
  upper : Nat := 0            -- extended linear address (upper 16 bits) or segment base
  segBase : Nat := 0
  segs : List (Nat × Bytes) := []
  done : Bool := false

def checksumOk (rec : Bytes) : Bool := (rec.foldl (fun a b => a + b.toNat) 0) % 256 == 0

/-- one record line (without the leading colon), as bytes -/
def stepRecord (st : RState) (rec : Bytes) : Option RState :=
  if st.done then none else
  match rec with
  | len :: ah :: al :: ty :: rest =>
    if rest.length ≠ len.toNat + 1 then none
    else if !checksumOk rec then none
    else
      let data := rest.take len.toNat
      let off := ah.toNat * 256 + al.toNat
      match ty.toNat with
      | 0 => some { st with segs := (st.upper * 65536 + st.segBase + off, data) :: st.segs }
      | 1 => if len.toNat = 0 then some { st with done := true } else none
      | 2 => if len.toNat = 2 then some { st with segBase := ofBe data * 16, upper := 0 } else none
      | 4 => if len.toNat = 2 then some { st with upper := ofBe data, segBase := 0 } else none
      | _ => none
  | _ => none

def splitLines (cs : List Char) : List (List Char) :=
  let rec go (cur : List Char) (acc : List (List Char)) : List Char → List (List Char)
    | [] => (if cur = [] then acc else cur.reverse :: acc).reverse
    | c :: rest => if c = '\n' then go [] (cur.reverse :: acc) rest
                   else if c = '\r' then go cur acc rest else go (c :: cur) acc rest
  go [] [] cs

/-- read a whole file; `none` on any malformation (also when the end-of-file record is missing) -/
def read (text : String) : Option Image :=
  let lines := (splitLines text.toList).filter (· ≠ [])
  let r := lines.foldl (fun (acc : Option RState) line =>
    match acc, line with
    | some st, ':' :: hexs =>
      match ofHexChars hexs with
      | some rec => stepRecord st rec
      | none => none
    | _, _ => none) (some {})
  match r with
  | some st => if st.done then canon st.segs.reverse else none
  | none => none

/-- image with `bytes` placed at `addr` -/
def place (addr : Nat) (bytes : Bytes) : Image := [(addr, bytes)]

end SuitVerif.IHex
