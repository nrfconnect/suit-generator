import SuitVerif.Decode
/-! C17 core: with every guard in place, `from_cbor` of every node kind, for every schema and every input,
never lets a Python-level internal error escape; with a guard missing, only the exception of that site. -/
namespace SuitVerif.Decode
open SuitVerif SuitVerif.Py

def cleanB {α} : R α → Bool
  | .error (.internal _) => false
  | _ => true
abbrev Clean {α} (r : R α) : Prop := cleanB r = true

theorem clean_ok {α} (a : α) : Clean (Except.ok a : R α) := rfl
theorem clean_value {α} : Clean (Except.error .valueError : R α) := rfl

theorem guardErr_all (k : String) : guardErr true k = .valueError := rfl

/-- The errors that can come out under `g`: every class but `internal`, and of the internal ones `IndexError` when
the tuple guard is missing, `TypeError` when one of the other three is. -/
def Guards.admits (g : Guards) : Err → Bool
  | .internal k => (k == "IndexError" && !g.tupleIndex) ||
      (k == "TypeError" && !(g.embeddedNone && g.bitfieldType && g.encInfoFromCbor))
  | _ => true

def admitsB (g : Guards) {α} : R α → Bool
  | .error e => g.admits e
  | .ok _ => true
abbrev Admitted (g : Guards) {α} (r : R α) : Prop := admitsB g r = true

theorem clean_of_admitted {α} {r : R α} (h : Admitted allGuards r) : Clean r := by
  cases r with
  | ok a => rfl
  | error e =>
    cases e with
    | internal k => simp [Admitted, admitsB, Guards.admits, allGuards] at h
    | _ => rfl

section
variable {g : Guards}

theorem admitted_ok {α} (a : α) : Admitted g (.ok a : R α) := rfl

theorem admits_guardErr (g : Guards) :
    g.admits (guardErr g.tupleIndex "IndexError") ∧ g.admits (guardErr g.embeddedNone "TypeError") ∧
    g.admits (guardErr g.bitfieldType "TypeError") ∧ g.admits (guardErr g.encInfoFromCbor "TypeError") := by
  obtain ⟨a, b, c, d⟩ := g
  revert a b c d
  decide

/-! `Admitted g` is closed under the three ways in which the model combines results (`>>=`, `<$>`, trying an alternative
after a `valueError`): none of them makes an error of its own. -/

theorem admitted_error {α β} {r : R α} {e : Err} (hr : Admitted g r) (he : r = .error e) :
    Admitted g (.error e : R β) := by
  subst he
  exact hr

theorem admitted_bind {α β} {x : R α} {f : α → R β} (hx : Admitted g x) (hf : ∀ a, Admitted g (f a)) :
    Admitted g (x >>= f) := by
  cases x with
  | ok a => exact hf a
  | error e => exact hx

theorem admitted_map {α β} {x : R α} {f : α → β} (hx : Admitted g x) : Admitted g (f <$> x) := by
  cases x with
  | ok a => rfl
  | error e => exact hx

-- `r : R Node`, not `R α`: the `match` has to unfold to the very term it unfolds to inside the decoders, which all
-- match on a result of `fromBytes`; a matcher with a further type parameter is not unified with theirs
theorem admitted_orElse {β} {r : R Node} {f : Node → R β} {alt : R β}
    (hr : Admitted g r) (hf : ∀ n, Admitted g (f n)) (halt : Admitted g alt) :
    Admitted g (match r with | .ok n => f n | .error .valueError => alt | .error e => .error e) := by
  split
  · exact hf _
  · exact halt
  · exact hr

theorem deser_admitted (b : Bytes) : Admitted g (deser b) := by
  unfold deser
  repeat' split
  all_goals rfl

theorem leafFrom_admitted (ty : Ty) (b : Bytes) (r : R Node) (h : leafFrom g ty b = some r) : Admitted g r := by
  cases ty <;> cases h
  case uint | imageSize | int | bool | null | tstr | enum =>
    refine admitted_bind (deser_admitted b) fun v => ?_
    repeat' split
    all_goals rfl
  case uuid | emptyBstr | bchar =>
    repeat' split
    all_goals rfl
  case encInfoExt => exact (admits_guardErr g).2.2.2
  all_goals rfl

end

/-- The eight mutually recursive decoders at recursion budget `fuel`.  Each of them calls the others, and itself, at the budget
below only, so one induction on the budget proves the eight together. -/
structure AdmittedAt (g : Guards) (s : Schema) (fuel : Nat) : Prop where
  bytes : ∀ c b, Admitted g (fromBytes g s fuel c b)
  alts : ∀ cs i b, Admitted g (fromAlts g s fuel cs i b)
  list : ∀ c xs, Admitted g (fromList g s fuel c xs)
  tuple : ∀ es xs, Admitted g (fromTuple g s fuel es xs)
  star : ∀ c xs, Admitted g (fromStar g s fuel c xs)
  kvs : ∀ es emb kvs acc, Admitted g (fromKvs g s fuel es emb kvs acc)
  kvu : ∀ es kvs acc, Admitted g (fromKvu g s fuel es kvs acc)
  kvuAlts : ∀ es k x, Admitted g (fromKvuAlts g s fuel es k x)

namespace AdmittedAt
variable {g : Guards} {s : Schema} {fuel : Nat} (ih : AdmittedAt g s fuel)
include ih

theorem bytes_succ (c : Cls) (b : Bytes) : Admitted g (fromBytes g s (fuel + 1) c b) := by
  unfold fromBytes
  cases s.ty c with
  | none => rfl
  | some ty =>
    dsimp only
    cases hl : leafFrom g ty b with
    | some r => exact leafFrom_admitted ty b r hl
    | none =>
      cases ty with
      | cbstr inner => exact admitted_bind (ih.bytes inner b) fun _ => admitted_ok _
      | union alts => exact ih.alts alts 0 b
      | headerMapOptional m e => exact ih.alts [m, e] 0 b
      | tag t name child =>
        refine admitted_bind (deser_admitted b) fun v => ?_
        split
        · split
          · exact admitted_bind (ih.bytes ..) fun _ => admitted_ok _
          · rfl
        · rfl
      | list child group | version child =>
        refine admitted_bind (deser_admitted b) fun v => ?_
        split
        · exact admitted_bind (ih.list ..) fun _ => admitted_ok _
        · rfl
      | bitfield bit len =>
        refine admitted_bind (deser_admitted b) fun v => ?_
        split
        · exact (admits_guardErr g).2.2.1
        · refine admitted_bind (ih.list ..) fun ns => ?_
          repeat' split
          all_goals rfl
      | tupleNamed es =>
        refine admitted_bind (deser_admitted b) fun v => ?_
        split
        · exact admitted_bind (ih.tuple ..) fun _ => admitted_ok _
        · rfl
      | keyValueTuple es =>
        refine admitted_bind (deser_admitted b) fun v => ?_
        split
        · split
          · rfl
          · exact admitted_bind (ih.bytes ..) fun _ => admitted_ok _
        · rfl
        · rfl
      | keyValue es embedded =>
        refine admitted_bind (deser_admitted b) fun v => ?_
        split
        · exact admitted_bind (ih.kvs ..) fun _ => admitted_ok _
        · rfl
      | keyValueUnnamed es | payloadMap kc vc =>
        refine admitted_bind (deser_admitted b) fun v => ?_
        split
        · exact admitted_bind (ih.kvu ..) fun _ => admitted_ok _
        · rfl
      | _ => rfl   -- `unknown`, and the leaf kinds (which `hl` excludes): the last line of the `match`

theorem alts_succ : ∀ cs i b, Admitted g (fromAlts g s (fuel + 1) cs i b)
  | [], _, _ => by unfold fromAlts; rfl
  | c :: cs, i, b => by
    unfold fromAlts
    exact admitted_orElse (ih.bytes c b) (fun _ => admitted_ok _) (ih.alts cs (i + 1) b)

theorem list_succ : ∀ c xs, Admitted g (fromList g s (fuel + 1) c xs)
  | _, [] => by unfold fromList; rfl
  | c, x :: xs => by
    unfold fromList
    exact admitted_bind (ih.bytes ..) fun _ => admitted_bind (ih.list c xs) fun _ => admitted_ok _

theorem star_succ : ∀ c xs, Admitted g (fromStar g s (fuel + 1) c xs)
  | _, [] => by unfold fromStar; rfl
  | c, x :: xs => by
    unfold fromStar
    exact admitted_orElse (ih.bytes ..) (fun _ => admitted_bind (ih.star c xs) fun _ => admitted_ok _) (admitted_ok _)

theorem tuple_succ : ∀ es xs, Admitted g (fromTuple g s (fuel + 1) es xs)
  | [], _ => by unfold fromTuple; rfl
  | (k, c) :: es, xs => by
    unfold fromTuple
    split
    · exact admitted_bind (ih.star ..) fun _ => admitted_bind (ih.tuple ..) fun _ => admitted_ok _
    · split
      · exact (admits_guardErr g).1
      · exact admitted_bind (ih.bytes ..) fun _ => admitted_bind (ih.tuple ..) fun _ => admitted_ok _

theorem kvs_succ : ∀ es emb kvs acc, Admitted g (fromKvs g s (fuel + 1) es emb kvs acc)
  | _, _, [], _ => by unfold fromKvs; rfl
  | es, emb, (k, x) :: rest, acc => by
    unfold fromKvs
    split
    · exact admitted_bind (ih.bytes ..) fun _ => ih.kvs ..
    · split
      · exact (admits_guardErr g).2.1
      · dsimp only
        split
        · exact ih.kvs ..
        · -- `admitted_orElse` with a further case among the results: the rest of the map in every case but the last
          split
          next => exact ih.kvs ..
          next => exact ih.kvs ..
          next => exact ih.kvs ..
          next h => exact admitted_error (ih.bytes ..) h

theorem kvu_succ : ∀ es kvs acc, Admitted g (fromKvu g s (fuel + 1) es kvs acc)
  | _, [], _ => by unfold fromKvu; rfl
  | es, (k, x) :: rest, acc => by
    unfold fromKvu
    exact admitted_bind (ih.kvuAlts ..) fun _ => ih.kvu ..

theorem kvuAlts_succ : ∀ es k x, Admitted g (fromKvuAlts g s (fuel + 1) es k x)
  | [], _, _ => by unfold fromKvuAlts; rfl
  | (kc, vc) :: es, k, x => by
    unfold fromKvuAlts
    exact admitted_orElse (ih.bytes ..)
      (fun _ => admitted_orElse (ih.bytes ..) (fun _ => admitted_ok _) (ih.kvuAlts es k x)) (ih.kvuAlts es k x)

end AdmittedAt

/-- Which internal Python exception (neither ValueError nor SUITError) can escape `from_cbor`, for every state of the
four guards: only the `IndexError` of `SuitTupleNamed` when its guard is missing, and the `TypeError` of the other
three sites when one of theirs is (`Guards.admits`, which also lets the model's own `fuel` and `model` errors pass);
the four `C17_needs_*` show that each of these does escape. -/
theorem admittedAt (g : Guards) (s : Schema) : ∀ fuel, AdmittedAt g s fuel
  | 0 => by
    constructor <;> intros <;>
      simp only [fromBytes, fromAlts, fromList, fromTuple, fromStar, fromKvs, fromKvu, fromKvuAlts] <;> rfl
  | fuel + 1 =>
    have ih := admittedAt g s fuel
    ⟨ih.bytes_succ, ih.alts_succ, ih.list_succ, ih.tuple_succ, ih.star_succ, ih.kvs_succ, ih.kvu_succ, ih.kvuAlts_succ⟩

theorem fromBytes_clean (s : Schema) (fuel : Nat) (c : Cls) (b : Bytes) :
    Clean (fromBytes allGuards s fuel c b) :=
  clean_of_admitted ((admittedAt allGuards s fuel).bytes c b)

theorem fromAlts_clean (s : Schema) (fuel : Nat) (cs : List Cls) (i : Nat) (b : Bytes) :
    Clean (fromAlts allGuards s fuel cs i b) :=
  clean_of_admitted ((admittedAt allGuards s fuel).alts cs i b)

theorem fromList_clean (s : Schema) (fuel : Nat) (c : Cls) (xs : List Cbor) :
    Clean (fromList allGuards s fuel c xs) :=
  clean_of_admitted ((admittedAt allGuards s fuel).list c xs)

theorem fromTuple_clean (s : Schema) (fuel : Nat) (es : List (String × Cls)) (xs : List Cbor) :
    Clean (fromTuple allGuards s fuel es xs) :=
  clean_of_admitted ((admittedAt allGuards s fuel).tuple es xs)

theorem fromStar_clean (s : Schema) (fuel : Nat) (c : Cls) (xs : List Cbor) :
    Clean (fromStar allGuards s fuel c xs) :=
  clean_of_admitted ((admittedAt allGuards s fuel).star c xs)

theorem fromKvs_clean (s : Schema) (fuel : Nat) (es : List Entry) (emb : Option String)
    (kvs : List (Cbor × Cbor)) (acc : List (KvKey × Node)) :
    Clean (fromKvs allGuards s fuel es emb kvs acc) :=
  clean_of_admitted ((admittedAt allGuards s fuel).kvs es emb kvs acc)

theorem fromKvu_clean (s : Schema) (fuel : Nat) (es : List (Cls × Cls))
    (kvs : List (Cbor × Cbor)) (acc : List (String × Node × Node)) :
    Clean (fromKvu allGuards s fuel es kvs acc) :=
  clean_of_admitted ((admittedAt allGuards s fuel).kvu es kvs acc)

theorem fromKvuAlts_clean (s : Schema) (fuel : Nat) (es : List (Cls × Cls)) (k x : Cbor) :
    Clean (fromKvuAlts allGuards s fuel es k x) :=
  clean_of_admitted ((admittedAt allGuards s fuel).kvuAlts es k x)

end SuitVerif.Decode
