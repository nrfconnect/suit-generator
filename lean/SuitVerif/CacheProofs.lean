import SuitVerif.Cache
import SuitVerif.CborProofs
import SuitVerif.Except
/-! Lemmas for C10: padding arithmetic, one step of `checkWalk` over an entry, what `addSlots` writes is accepted,
what `check` accepts is read back, `merge` is `fromPayloads` of what the input files hold. -/
namespace SuitVerif.Cache
open SuitVerif

theorem roundUp_bounds (eb n : Nat) (h : 0 < eb) : n ≤ roundUp eb n ∧ roundUp eb n < n + eb := by
  -- `m / eb * eb ≤ m < m / eb * eb + eb` at `m = n + eb - 1`
  have h1 := Nat.div_mul_le_self (n + eb - 1) eb
  have h2 := Nat.lt_div_mul_add (a := n + eb - 1) h
  unfold roundUp
  omega

theorem roundUp_ge (eb n : Nat) (h : 0 < eb) : n ≤ roundUp eb n := (roundUp_bounds eb n h).1

theorem roundUp_lt (eb n : Nat) (h : 0 < eb) : roundUp eb n < n + eb := (roundUp_bounds eb n h).2

theorem roundUp_mod (eb n : Nat) : roundUp eb n % eb = 0 := by
  unfold roundUp; exact Nat.mul_mod_left _ _

theorem roundUp_of_dvd (eb n : Nat) (heb : 0 < eb) (h : n % eb = 0) : roundUp eb n = n := by
  have h1 := roundUp_ge eb n heb
  have h2 := roundUp_lt eb n heb
  have h3 : (roundUp eb n - n) % eb = 0 := Nat.sub_mod_eq_zero_of_mod_eq (by rw [roundUp_mod, h])
  rw [Nat.mod_eq_of_lt (by omega)] at h3
  omega

/-- a padding entry (empty key, `k` zero bytes as value) with the length in the value's initial byte … -/
def pad1 (k : Nat) : Bytes := [0x60, UInt8.ofNat (0x40 + k)] ++ zeros k
/-- … and with a two-byte length -/
def pad2 (k : Nat) : Bytes := [0x60, 0x59] ++ beBytes 2 k ++ zeros k

inductive PadShape : Bytes → Prop
  | none : PadShape []
  | short (k : Nat) (h : k ≤ 21) : PadShape (pad1 k)
  | long (k : Nat) (h : k < 65536) : PadShape (pad2 k)

@[simp] theorem zeros_length (n : Nat) : (zeros n).length = n := by simp [zeros]

theorem zeros_all (n : Nat) : (zeros n).all (· == 0) = true := by
  simp [zeros]

theorem pad1_length (k : Nat) : (pad1 k).length = k + 2 := by simp [pad1]

theorem pad2_length (k : Nat) : (pad2 k).length = k + 4 := by simp [pad2, beBytes_length]; omega

theorem addPadding_spec (eb : Nat) (d out : Bytes) (h : addPadding eb d = .ok out) :
    out.length % eb = 0 ∧ ∃ pad, out = d ++ pad ∧ PadShape pad ∧
      pad.length = if roundUp eb d.length - d.length = 1 then roundUp eb d.length - d.length + eb
        else roundUp eb d.length - d.length := by
  unfold addPadding at h
  by_cases heb : eb = 0
  · rw [if_pos heb] at h; cases h
  rw [if_neg heb] at h
  have hpos : 0 < eb := by omega
  have h1 := roundUp_ge eb d.length hpos
  have h2 := roundUp_lt eb d.length hpos
  -- what is appended depends only on the number `n` of bytes to fill, which is never 1 and completes a block
  dsimp only at h
  generalize hn : (if roundUp eb d.length - d.length = 1 then roundUp eb d.length - d.length + eb
    else roundUp eb d.length - d.length) = n at h
  have hn1 : n ≠ 1 := by rw [← hn]; split <;> omega
  have hmod : (d.length + n) % eb = 0 := by
    have : d.length + n = roundUp eb d.length ∨ d.length + n = roundUp eb d.length + eb := by
      rw [← hn]; split <;> omega
    rcases this with h | h <;> rw [h] <;> simp [roundUp_mod]
  suffices ∃ pad, out = d ++ pad ∧ PadShape pad ∧ pad.length = n by
    obtain ⟨pad, rfl, hs, hl⟩ := this
    exact ⟨by rw [List.length_append, hl, hmod], pad, rfl, hs, hl⟩
  by_cases h0 : n = 0
  · rw [if_pos h0] at h; cases h; exact ⟨[], by simp, .none, by simp [h0]⟩
  by_cases h23 : n ≤ 23
  · rw [if_neg h0, if_pos h23] at h; cases h
    exact ⟨pad1 (n - 2), by simp [pad1], .short _ (by omega), by rw [pad1_length]; omega⟩
  by_cases hFFFF : n ≤ 0xFFFF
  · rw [if_neg h0, if_neg h23, if_pos hFFFF] at h; cases h
    exact ⟨pad2 (n - 4), by simp [pad2], .long _ (by omega), by rw [pad2_length]; omega⟩
  · rw [if_neg h0, if_neg h23, if_neg hFFFF] at h; cases h

theorem PadShape.nil_or_entry {pad : Bytes} (h : PadShape pad) :
    pad = [] ∨ ∃ hd k, pad = 0x60 :: (hd ++ zeros k) ∧ ∀ rest, decHead false (hd ++ rest) = some (2, k, rest) := by
  cases h with
  | none => exact .inl rfl
  | short k hk =>
    exact .inr ⟨[UInt8.ofNat (2 * 32 + k)], k, rfl, fun rest => decHead_cons_small false 2 k rest (by decide) (by omega)⟩
  | long k hk =>
    exact .inr ⟨UInt8.ofNat (2 * 32 + 25) :: beBytes 2 k, k, rfl, fun rest =>
      decHead_cons_wide false 2 25 2 k rest (by decide) (by decide) rfl hk nofun⟩

/-- the unpadded entry of a real slot (without the opening `BF`) -/
def entry (u p : Bytes) : Bytes := enc (.tstr u) ++ [0x5A] ++ beBytes 4 p.length ++ p

theorem ne_ff_of_decHead {bs : Bytes} {x : Nat × Nat × Bytes} (h : decHead false bs = some x) : bs ≠ [0xFF] := by
  rintro rfl; simp [decHead, aiWidth] at h

/-- The heads of key and value are given by what `decHead` makes of them, so one statement serves every width of head. -/
theorem checkWalk_step (eb total fuel : Nat) (ex : List (Bytes × Bytes)) (first : Bool) {bs key r1 val rest : Bytes}
    (hk : decHead false bs = some (3, key.length, key ++ r1))
    (hv : decHead false r1 = some (2, val.length, val ++ rest)) :
    checkWalk eb total (fuel + 1) ex first bs =
      if key = [] then val.all (· == 0) && checkWalk eb total fuel ex first rest
      else match ex with
        | [] => false
        | (u, p) :: ex' => key == u && val == p && r1.head? == some 0x5A
            && (first || (total - bs.length) % eb == 0) && checkWalk eb total fuel ex' false rest := by
  have hl (a b : Bytes) : ¬ (a ++ b).length < a.length := by simp
  rw [checkWalk, if_neg (ne_ff_of_decHead hk), hk]
  simp only [hl, if_false, List.take_left', List.drop_left', hv]
  rfl  -- the two sides name their `match` differently

theorem checkWalk_end (eb total fuel : Nat) (ex : List (Bytes × Bytes)) (first : Bool) :
    checkWalk eb total (fuel + 1) ex first [0xFF] = ex.isEmpty := by
  simp [checkWalk]

/-- `bs` is the rest of a file from offset `pre` on. Any fuel from `bs.length` up will do: an entry takes one unit of
fuel and at least two bytes. -/
def Accepts (eb pre : Nat) (ex : List (Bytes × Bytes)) (first : Bool) (bs : Bytes) : Prop :=
  ∀ total fuel, total = pre + bs.length → bs.length ≤ fuel → checkWalk eb total fuel ex first bs = true

theorem accepts_end (eb pre : Nat) (first : Bool) : Accepts eb pre [] first [0xFF] := by
  intro total fuel _ hf
  obtain ⟨fuel, rfl⟩ : ∃ f, fuel = f + 1 := ⟨fuel - 1, by simp at hf; omega⟩
  exact checkWalk_end eb total fuel [] first

/-- One entry `e` at offset `pre`: it is enough that a step of `checkWalk` leads from `e ++ rest` to `rest`. -/
theorem accepts_cons {eb pre : Nat} {ex ex' : List (Bytes × Bytes)} {first first' : Bool} {e rest : Bytes} (he : e ≠ [])
    (hstep : ∀ total fuel, total - (e ++ rest).length = pre → checkWalk eb total fuel ex' first' rest = true →
      checkWalk eb total (fuel + 1) ex first (e ++ rest) = true)
    (h : Accepts eb (pre + e.length) ex' first' rest) : Accepts eb pre ex first (e ++ rest) := by
  intro total fuel ht hf
  have := List.length_pos_iff.mpr he
  rw [List.length_append] at ht hf
  obtain ⟨fuel, rfl⟩ : ∃ f, fuel = f + 1 := ⟨fuel - 1, by omega⟩
  exact hstep total fuel (by rw [List.length_append]; omega) (h total fuel (by omega) (by omega))

theorem accepts_pad {eb pre : Nat} {ex : List (Bytes × Bytes)} {first : Bool} {pad rest : Bytes} (hp : PadShape pad)
    (h : Accepts eb (pre + pad.length) ex first rest) : Accepts eb pre ex first (pad ++ rest) := by
  rcases hp.nil_or_entry with rfl | ⟨hd, k, rfl, hhd⟩
  · exact h
  · refine accepts_cons (by simp) (fun total fuel _ hr => ?_) h
    rw [List.cons_append, List.append_assoc]
    refine (checkWalk_step eb total fuel ex first (key := []) (val := zeros k)
      (decHead_cons_small false 3 0 _ (by decide) (by decide)) (by simpa using hhd (zeros k ++ rest))).trans ?_
    simpa [zeros_all] using hr

theorem accepts_entry {eb pre : Nat} {ex : List (Bytes × Bytes)} {first : Bool} {u p rest : Bytes}
    (hu : u ≠ []) (hul : u.length < 2 ^ 64) (hp : p.length < 2 ^ 32) (hal : first = true ∨ pre % eb = 0)
    (h : Accepts eb (pre + (entry u p).length) ex false rest) :
    Accepts eb pre ((u, p) :: ex) first (entry u p ++ rest) := by
  refine accepts_cons (by simp [entry]) (fun total fuel hoff hr => ?_) h
  have hk : decHead false (entry u p ++ rest)
      = some (3, u.length, u ++ (0x5A :: (beBytes 4 p.length ++ (p ++ rest)))) := by
    simpa [entry, enc, List.append_assoc] using
      decHead_head false 3 u.length (u ++ 0x5A :: (beBytes 4 p.length ++ (p ++ rest))) (by decide) hul
  rw [checkWalk_step eb total fuel _ first hk
    (decHead_cons_wide false 2 26 4 p.length (p ++ rest) (by decide) (by decide) rfl hp nofun), hoff]
  simpa [hu, hal] using hr

theorem check_of_accepts (eb : Nat) (slots : List (Bytes × Bytes)) (rest : Bytes) (hne : slots ≠ [])
    (h : Accepts eb 1 slots true rest) : check eb slots (0xBF :: rest) = true := by
  have := h (rest.length + 1) (rest.length + 1 + 1) (Nat.add_comm _ _) (by omega)
  simpa [check, hne] using this

@[simp] def opening (first : Bool) : Bytes := if first then [0xBF] else []

theorem slotBytes_eq (first : Bool) (u p : Bytes) : slotBytes first u p = opening first ++ entry u p := by
  cases first <;> simp [slotBytes, entry]

theorem addSlot_ok (eb : Nat) (s s1 : State) (u p : Bytes) (h : addSlot eb s u p = .ok s1) :
    s.uris.contains u = false ∧ p.length < 2 ^ 32 ∧ ∃ pad, PadShape pad ∧
      (opening s.first ++ entry u p ++ pad).length % eb = 0 ∧
      s1 = { first := false, data := s.data ++ (opening s.first ++ entry u p ++ pad), uris := s.uris ++ [u] } := by
  unfold addSlot at h
  by_cases hc : s.uris.contains u = true
  · rw [if_pos hc] at h; cases h
  by_cases ho : 2 ^ 32 ≤ p.length
  · rw [if_neg hc, if_pos ho] at h; cases h
  rw [if_neg hc, if_neg ho, slotBytes_eq] at h
  obtain ⟨padded, hp, h⟩ := Except.bind_eq_ok.mp h
  obtain ⟨hmod, pad, rfl, hshape, -⟩ := addPadding_spec eb _ _ hp
  cases h
  exact ⟨by simpa using hc, by omega, pad, hshape, hmod, rfl⟩

/-- What `addSlots` appends is accepted once the map is closed. The induction carries `pre`: every slot, with its opening
`BF` and its padding, starts and ends at a multiple of `eb`. -/
theorem addSlots_accepts (eb : Nat) (slots : List (Bytes × Bytes)) :
    ∀ (s s' : State), addSlots eb s slots = .ok s' → (∀ e ∈ slots, e.1 ≠ [] ∧ e.1.length < 2 ^ 64) →
    ∃ body, s'.data = s.data ++ opening (s.first && !slots.isEmpty) ++ body ∧
      ∀ pre, pre % eb = 0 →
        Accepts eb (pre + (opening (s.first && !slots.isEmpty)).length) slots s.first (body ++ [0xFF]) := by
  induction slots with
  | nil =>
    intro s s' h _
    cases h
    exact ⟨[], by simp, fun pre _ => accepts_end eb _ _⟩
  | cons e rest ih =>
    intro s s' h hs
    obtain ⟨u, p⟩ := e
    obtain ⟨s1, h1, h⟩ := Except.bind_eq_ok.mp h
    obtain ⟨_, hp, pad, hshape, hmod, rfl⟩ := addSlot_ok eb s s1 u p h1
    obtain ⟨hu, hul⟩ := hs (u, p) (by simp)
    obtain ⟨body, hdata, hacc⟩ := ih _ s' h (fun e he => hs e (by simp [he]))
    refine ⟨entry u p ++ pad ++ body, by simpa using hdata, fun pre hpre => ?_⟩
    have := hacc (pre + (opening s.first ++ entry u p ++ pad).length)
      (by rw [Nat.add_mod, hpre, hmod]; exact Nat.zero_mod eb)
    simp only [List.append_assoc]
    refine accepts_entry hu hul hp (by cases s.first <;> simp [hpre]) (accepts_pad hshape ?_)
    simpa [Nat.add_assoc] using this

/-! ### reading back: whatever `check` accepts, the loader returns exactly the expected pairs -/

def itemsPairs (items : List Item) : List (Bytes × Bytes) :=
  (items.filter (fun it => it.key ≠ [])).map (fun it => (it.key, it.value))

theorem itemsPairs_cons (it : Item) (items : List Item) :
    itemsPairs (it :: items) = if it.key = [] then itemsPairs items else (it.key, it.value) :: itemsPairs items := by
  by_cases h : it.key = [] <;> simp [itemsPairs, h]

theorem walk_step (total fuel : Nat) {bs key r1 val rest : Bytes}
    (hk : decHead false bs = some (3, key.length, key ++ r1))
    (hv : decHead false r1 = some (2, val.length, val ++ rest)) :
    walk total (fuel + 1) bs = (walk total fuel rest).map
      ({ offset := total - bs.length, key := key, fixed4 := r1.head? == some 0x5A, value := val } :: ·) := by
  have hl (a b : Bytes) : ¬ (a ++ b).length < a.length := by simp
  rw [walk, if_neg (ne_ff_of_decHead hk), hk]
  simp only [hl, if_false, List.take_left', List.drop_left', hv]
  cases walk total fuel rest <;> rfl

theorem checkWalk_cases {eb total fuel : Nat} {ex : List (Bytes × Bytes)} {first : Bool} {bs : Bytes}
    (h : checkWalk eb total (fuel + 1) ex first bs = true) :
    bs = [0xFF] ∨ ∃ key r1 val rest, decHead false bs = some (3, key.length, key ++ r1) ∧
      decHead false r1 = some (2, val.length, val ++ rest) := by
  by_cases hff : bs = [0xFF]
  · exact .inl hff
  rw [checkWalk, if_neg hff] at h
  split at h <;> try contradiction
  rename_i kn r1 hk
  by_cases hl : r1.length < kn
  · rw [if_pos hl] at h; contradiction
  rw [if_neg hl] at h
  split at h <;> try contradiction
  rename_i vn r3 hv
  by_cases hl3 : r3.length < vn
  · rw [if_pos hl3] at h; contradiction
  refine .inr ⟨r1.take kn, r1.drop kn, r3.take vn, r3.drop vn, ?_, ?_⟩
  · rw [List.take_append_drop, List.length_take_of_le (Nat.le_of_not_lt hl)]; exact hk
  · rw [List.take_append_drop, List.length_take_of_le (Nat.le_of_not_lt hl3)]; exact hv

theorem walk_of_check (eb total : Nat) : ∀ (fuel : Nat) (ex : List (Bytes × Bytes)) (first : Bool) (bs : Bytes),
    checkWalk eb total fuel ex first bs = true →
    ∃ items, walk total fuel bs = some items ∧ itemsPairs items = ex := by
  intro fuel
  induction fuel with
  | zero => intro ex first bs h; simp [checkWalk] at h
  | succ fuel ih =>
    intro ex first bs h
    rcases checkWalk_cases h with rfl | ⟨key, r1, val, rest, hk, hv⟩
    · rw [checkWalk_end] at h
      exact ⟨[], by simp [walk], (List.isEmpty_iff.mp h).symm⟩
    rw [checkWalk_step eb total fuel ex first hk hv] at h
    rw [walk_step total fuel hk hv]
    by_cases hke : key = []
    · simp only [hke, if_true, Bool.and_eq_true] at h
      obtain ⟨items, hw, hp⟩ := ih ex first _ h.2
      exact ⟨_, by rw [hw]; rfl, by simpa [itemsPairs_cons, hke] using hp⟩
    · cases ex with
      | nil => simp [hke] at h
      | cons e ex' =>
        simp only [hke, if_false, Bool.and_eq_true, beq_iff_eq] at h
        obtain ⟨⟨⟨⟨rfl, rfl⟩, _⟩, _⟩, hrec⟩ := h
        obtain ⟨items, hw, hp⟩ := ih ex' false _ hrec
        exact ⟨_, by rw [hw]; rfl, by simp [itemsPairs_cons, hke, hp]⟩

theorem dictInsert_filter_ne (d : List (Bytes × Bytes)) (k v : Bytes) :
    (dictInsert d k v).filter (fun e => e.1 ≠ k) = d.filter (fun e => e.1 ≠ k) := by
  have hmap : (d.map fun e => if e.1 == k then (k, v) else e).filter (fun e => e.1 ≠ k)
      = d.filter (fun e => e.1 ≠ k) := by
    induction d with
    | nil => rfl
    | cons e rest ih => by_cases he : e.1 = k <;> simp_all
  unfold dictInsert
  split
  · exact hmap
  · simp [List.filter_append]

theorem dictInsert_fresh (d : List (Bytes × Bytes)) (k v : Bytes) (h : ∀ e ∈ d, e.1 ≠ k) :
    dictInsert d k v = d ++ [(k, v)] :=
  if_neg fun hc => let ⟨e, he, hk⟩ := List.any_eq_true.mp hc; h e he (eq_of_beq hk)

/-- Loading keeps, among the entries with a non-empty key, the order of the file as long as their keys differ: the
padding entries all go to the one key `[]`, which is dropped afterwards, and every other key is fresh when it comes. -/
theorem foldl_dictInsert_filter (items : List Item) : ∀ (d : List (Bytes × Bytes)),
    ((d.filter (fun e => e.1 ≠ [])).map (·.1) ++ (itemsPairs items).map (·.1)).Nodup →
    (items.foldl (fun d it => dictInsert d it.key it.value) d).filter (fun e => e.1 ≠ [])
      = d.filter (fun e => e.1 ≠ []) ++ itemsPairs items := by
  induction items with
  | nil => intro d _; simp [itemsPairs]
  | cons it rest ih =>
    intro d hnd
    rw [List.foldl_cons, itemsPairs_cons] at *
    by_cases hk : it.key = []
    · rw [if_pos hk] at hnd ⊢
      rw [ih _ (by rw [hk, dictInsert_filter_ne]; exact hnd), hk, dictInsert_filter_ne]
    · rw [if_neg hk] at hnd ⊢
      have hnew : ∀ e ∈ d, e.1 ≠ it.key := fun e he hek =>
        (List.nodup_append.mp hnd).2.2 _
          (List.mem_map.mpr ⟨e, List.mem_filter.mpr ⟨he, by simp [hek, hk]⟩, hek⟩) _ (by simp) rfl
      rw [dictInsert_fresh d _ _ hnew, ih]
      · simp [List.filter_append, hk]
      · simpa [List.filter_append, hk] using hnd

theorem addSlots_append (eb : Nat) (a b : List (Bytes × Bytes)) : ∀ s,
    addSlots eb s (a ++ b) = addSlots eb s a >>= fun s' => addSlots eb s' b := by
  induction a with
  | nil => intro s; rfl
  | cons e rest ih =>
    intro s
    obtain ⟨u, p⟩ := e
    simp only [List.cons_append, addSlots, bind_assoc, ih]

/-- the (URI, payload) pairs `merge_single_cache_file` takes from one input file -/
def filePairs (f : Bytes) : List (Bytes × Bytes) := ((loadsCache f).getD []).filter (fun e => e.1 ≠ [])

theorem mergeFiles_addSlots (eb : Nat) (files : List Bytes) : ∀ s s', mergeFiles eb s files = .ok s' →
    addSlots eb s (files.flatMap filePairs) = .ok s' := by
  induction files with
  | nil => intro s s' h; exact h
  | cons f rest ih =>
    intro s s' h
    obtain ⟨s1, h1, h⟩ := Except.bind_eq_ok.mp h
    rw [List.flatMap_cons, addSlots_append]
    refine Except.bind_eq_ok.mpr ⟨s1, ?_, ih s1 s' h⟩
    unfold mergeFile at h1
    split at h1
    · cases h1
    · rename_i d hl
      simpa [filePairs, hl] using h1

theorem merge_eq_fromPayloads (eb : Nat) (files : List Bytes) (out : Bytes) (h : merge eb files = .ok out) :
    fromPayloads eb (files.flatMap filePairs) = .ok out := by
  obtain ⟨s', h1, h⟩ := Except.bind_eq_ok.mp h
  exact Except.bind_eq_ok.mpr ⟨s', mergeFiles_addSlots eb files {} s' h1, h⟩

end SuitVerif.Cache
