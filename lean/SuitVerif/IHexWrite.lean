import SuitVerif.IHexCanon
/-! A model of the writer the tool uses for every hex file (`intelhex.IntelHex.write_hex_file`, third party), on one
contiguous block of data, and what the verifier's strict reader makes of its records: the data records of a block are stored as
consecutive pieces of that block (`fold_writeGo`, `chunks_pieces`), for every address and every length below 2^32.  That the reader
then gives back exactly the block, `readRecs (writeRecs addr data) = some [(addr, data)]`, is the one-block case of the theorem about
whole images (`IHexImage.lean`).

The writer: an extended-linear-address record (type 04) before the first data record and whenever the upper 16 address
bits change, but only when the highest address exceeds 0xFFFF; data records of at most 16 bytes that never cross a 64 KiB
border; the end-of-file record.  Each record is `len, offset-high, offset-low, type, data…, checksum` with the two's-complement
checksum.  (The text layer - a colon, upper-case hexadecimal, a line break per record - is `recordLine`.) -/
namespace SuitVerif.IHex
open SuitVerif

def sumBytes (b : Bytes) : Nat := b.foldl (fun a x => a + x.toNat) 0

def cksum (body : Bytes) : UInt8 := UInt8.ofNat ((256 - sumBytes body % 256) % 256)

def mkRecord (off : Nat) (ty : UInt8) (data : Bytes) : Bytes :=
  let body := UInt8.ofNat data.length :: UInt8.ofNat (off / 256) :: UInt8.ofNat (off % 256) :: ty :: data
  body ++ [cksum body]

def eofRecord : Bytes := mkRecord 0 1 []
def extRecord (hi : Nat) : Bytes := mkRecord 0 4 (beBytes 2 hi)

def chunkLen (addr len : Nat) : Nat := min 16 (min (65536 - addr % 65536) len)

/-- data records for `data` at `addr`; `need`: the file has addresses above 0xFFFF, so extension records are written at all;
`hi` = the upper address bits the last type-04 record announced -/
def writeGo (need : Bool) : Nat → Option Nat → Nat → Bytes → List Bytes
  | 0, _, _, _ => []
  | fuel + 1, hi, addr, data =>
    if data = [] then [] else
    let n := chunkLen addr data.length
    let pre := if need && hi != some (addr / 65536) then [extRecord (addr / 65536)] else []
    pre ++ mkRecord (addr % 65536) 0 (data.take n) :: writeGo need fuel (if need then some (addr / 65536) else hi) (addr + n) (data.drop n)

/-- the pieces the data is cut into, with their addresses -/
def chunks : Nat → Nat → Bytes → List (Nat × Bytes)
  | 0, _, _ => []
  | fuel + 1, addr, data =>
    if data = [] then [] else
    let n := chunkLen addr data.length
    (addr, data.take n) :: chunks fuel (addr + n) (data.drop n)

/-- the records of a file holding `data` at `addr` -/
def writeRecs (addr : Nat) (data : Bytes) : List Bytes :=
  writeGo (decide (addr + data.length - 1 > 65535)) data.length none addr data ++ [eofRecord]

/-- the reader on records (`read` is this after the text layer) -/
def readRecs (recs : List Bytes) : Option Image :=
  match recs.foldl (fun (acc : Option RState) r => acc.bind (fun st => stepRecord st r)) (some {}) with
  | some st => if st.done then canon st.segs.reverse else none
  | none => none

/-- one line of the file -/
def recordLine (rec : Bytes) : List Char := ':' :: toHexCharsU rec ++ ['\n']

/-- the file: the lines of its records -/
def textOf (recs : List Bytes) : List Char := (recs.map recordLine).flatten

/-- the text of a file holding `data` at `addr` -/
def writeText (addr : Nat) (data : Bytes) : String := String.ofList (textOf (writeRecs addr data))

theorem checksumOk_mk (body : Bytes) : checksumOk (body ++ [cksum body]) = true := by
  simp only [checksumOk, List.foldl_append, List.foldl_cons, List.foldl_nil, cksum, UInt8.toNat_ofNat', beq_iff_eq]
  show (sumBytes body + _) % 256 = 0
  omega

theorem stepRecord_mkRecord (st : RState) (off : Nat) (ty : UInt8) (data : Bytes) (hd : st.done = false) (hl : data.length < 256)
    (ho : off < 65536) :
    stepRecord st (mkRecord off ty data) =
      match ty.toNat with
      | 0 => some { st with segs := (st.upper * 65536 + st.segBase + off, data) :: st.segs }
      | 1 => if data.length = 0 then some { st with done := true } else none
      | 2 => if data.length = 2 then some { st with segBase := ofBe data * 16, upper := 0 } else none
      | 4 => if data.length = 2 then some { st with upper := ofBe data, segBase := 0 } else none
      | _ => none := by
  obtain ⟨u, sb, sg, dn⟩ := st
  subst hd
  have hlen : (UInt8.ofNat data.length).toNat = data.length := u8_toNat_ofNat hl
  have hoff : (UInt8.ofNat (off / 256)).toNat * 256 + (UInt8.ofNat (off % 256)).toNat = off := by simp [UInt8.toNat_ofNat']; omega
  have hck := checksumOk_mk (UInt8.ofNat data.length :: UInt8.ofNat (off / 256) :: UInt8.ofNat (off % 256) :: ty :: data)
  unfold stepRecord mkRecord
  simp only [List.cons_append] at hck ⊢
  simp only [hck, hlen, hoff, List.length_append, List.length_cons, List.length_nil, List.take_left', Bool.false_eq_true, if_false,
    ne_eq, not_true_eq_false, Bool.not_true, Nat.zero_add]
  rfl

theorem step_data (st : RState) (off : Nat) (data : Bytes) (hd : st.done = false) (hl : data.length < 256) (ho : off < 65536) :
    stepRecord st (mkRecord off 0 data) = some { st with segs := (st.upper * 65536 + st.segBase + off, data) :: st.segs } :=
  stepRecord_mkRecord st off 0 data hd hl ho

theorem step_ext (st : RState) (hi : Nat) (hd : st.done = false) (hh : hi < 65536) :
    stepRecord st (extRecord hi) = some { st with upper := hi, segBase := 0 } := by
  rw [extRecord, stepRecord_mkRecord st 0 4 _ hd (by simp [beBytes_length]) (by omega)]
  simp [beBytes_length, ofBe_beBytes 2 hi (by omega)]

theorem step_eof (st : RState) (hd : st.done = false) : stepRecord st eofRecord = some { st with done := true } :=
  stepRecord_mkRecord st 0 1 [] hd (by simp) (by omega)

def foldRecs (recs : List Bytes) (st : Option RState) : Option RState :=
  recs.foldl (fun acc r => acc.bind (fun st => stepRecord st r)) st

theorem foldRecs_cons (r : Bytes) (rs : List Bytes) (st : RState) :
    foldRecs (r :: rs) (some st) = foldRecs rs (stepRecord st r) := by simp [foldRecs]

theorem foldRecs_append (a b : List Bytes) (st : Option RState) : foldRecs (a ++ b) st = foldRecs b (foldRecs a st) := by
  simp [foldRecs, List.foldl_append]

theorem chunkLen_facts (addr len : Nat) (h : 0 < len) :
    1 ≤ chunkLen addr len ∧ chunkLen addr len ≤ 16 ∧ chunkLen addr len ≤ len ∧ addr % 65536 + chunkLen addr len ≤ 65536 := by
  unfold chunkLen
  omega

/-- the upper address bits the reader has been told after the data records of one block -/
def hiEnd (need : Bool) : Nat → Option Nat → Nat → Bytes → Option Nat
  | 0, hi, _, _ => hi
  | fuel + 1, hi, addr, data =>
    if data = [] then hi else
    hiEnd need fuel (if need then some (addr / 65536) else hi) (addr + chunkLen addr data.length) (data.drop (chunkLen addr data.length))

/-- what the writer knows about the reader's address state -/
def AddrInv (need : Bool) (hi : Option Nat) (st : RState) : Prop :=
  (need = true → ∀ u, hi = some u → st.upper = u ∧ st.segBase = 0) ∧ (need = false → st.upper = 0 ∧ st.segBase = 0)

theorem chunks_succ (f a : Nat) (d : Bytes) (h : d ≠ []) :
    chunks (f + 1) a d = (a, d.take (chunkLen a d.length)) :: chunks f (a + chunkLen a d.length) (d.drop (chunkLen a d.length)) := by
  rw [chunks]; simp [h]

theorem chunks_nil (f a : Nat) : chunks f a [] = [] := by cases f <;> simp [chunks]

/-- the invariant after the address of the next data record has been announced: the reader computes `addr` for the offset `addr % 65536` -/
theorem AddrInv.base {need : Bool} {hi : Option Nat} {st : RState} (addr : Nat)
    (h : AddrInv need (if need then some (addr / 65536) else hi) st) (h2 : need = false → addr < 65536) :
    st.upper * 65536 + st.segBase + addr % 65536 = addr := by
  cases need with
  | false =>
    obtain ⟨hu, hsb⟩ := h.2 rfl
    rw [hu, hsb, Nat.mod_eq_of_lt (h2 rfl)]; omega
  | true =>
    obtain ⟨hu, hsb⟩ := h.1 rfl _ rfl
    rw [hu, hsb]; omega

theorem fold_ext (need : Bool) (hi : Option Nat) (addr : Nat) (st : RState) (hd : st.done = false) (hb : addr < 2 ^ 32)
    (hinv : AddrInv need hi st) :
    ∃ st', (∀ rest, foldRecs ((if need && hi != some (addr / 65536) then [extRecord (addr / 65536)] else []) ++ rest) (some st)
              = foldRecs rest (some st'))
      ∧ st'.done = false ∧ st'.segs = st.segs ∧ AddrInv need (if need then some (addr / 65536) else hi) st' := by
  cases need with
  | false => exact ⟨st, fun _ => rfl, hd, rfl, hinv⟩
  | true =>
    by_cases hne : hi = some (addr / 65536)
    · exact ⟨st, fun _ => by simp [hne], hd, rfl, by simpa [hne] using hinv⟩
    · exact ⟨{ st with upper := addr / 65536, segBase := 0 },
        fun _ => by simp [hne, foldRecs_cons, step_ext st (addr / 65536) hd (by omega)], hd, rfl,
        fun _ u hu => ⟨by simpa using hu, rfl⟩, fun h => by cases h⟩

theorem fold_writeGo (need : Bool) : ∀ (fuel : Nat) (hi : Option Nat) (addr : Nat) (data : Bytes) (st : RState),
    st.done = false → data.length ≤ fuel → addr + data.length ≤ 2 ^ 32 →
    AddrInv need hi st → (need = false → addr + data.length ≤ 65536) →
    ∃ st', foldRecs (writeGo need fuel hi addr data) (some st) = some st'
      ∧ st'.done = false ∧ st'.segs = (chunks fuel addr data).reverse ++ st.segs
      ∧ AddrInv need (hiEnd need fuel hi addr data) st' := by
  intro fuel
  induction fuel with
  | zero => intro hi addr data st hd _ _ hinv _; exact ⟨st, rfl, hd, rfl, hinv⟩
  | succ fuel ih =>
    intro hi addr data st hd hl hb hinv h2
    by_cases hdata : data = []
    · subst hdata
      exact ⟨st, by simp [writeGo, foldRecs], hd, by simp [chunks], by simpa [hiEnd] using hinv⟩
    · obtain ⟨hn1, hn16, hnl, -⟩ := chunkLen_facts addr data.length (List.length_pos_iff.mpr hdata)
      have hdrop : (data.drop (chunkLen addr data.length)).length = data.length - chunkLen addr data.length := List.length_drop
      obtain ⟨st1, hpre, hd1, hs1, hinv1⟩ := fold_ext need hi addr st hd (by omega) hinv
      have hbase := hinv1.base addr (fun h => by have := h2 h; omega)
      have hstep := step_data st1 (addr % 65536) (data.take (chunkLen addr data.length)) hd1 (by rw [List.length_take]; omega)
        (Nat.mod_lt addr (by decide))
      obtain ⟨st', hf, hd', hs', hi'⟩ := ih _ (addr + chunkLen addr data.length) (data.drop (chunkLen addr data.length))
        { st1 with segs := (addr, data.take (chunkLen addr data.length)) :: st1.segs } hd1
        (by omega) (by omega) hinv1 (fun h => by have := h2 h; omega)
      refine ⟨st', ?_, hd', ?_, ?_⟩
      · simp only [writeGo, hdata, if_false]
        rw [hpre, foldRecs_cons, hstep, hbase, hf]
      · rw [hs', hs1, chunks_succ fuel addr data hdata]
        simp
      · simpa only [hiEnd, hdata, if_false] using hi'

theorem chunks_pieces (f : Nat) : ∀ (a : Nat) (d : Bytes), d.length ≤ f → Pieces a d (chunks f a d) := by
  induction f with
  | zero =>
    intro a d h
    have : d = [] := List.eq_nil_of_length_eq_zero (by omega)
    subst this
    exact Pieces.nil a
  | succ f ih =>
    intro a d h
    by_cases hd : d = []
    · subst hd; rw [chunks_nil]; exact Pieces.nil a
    · obtain ⟨hn1, _, hnl, _⟩ := chunkLen_facts a d.length (List.length_pos_iff.mpr hd)
      have htake : (d.take (chunkLen a d.length)).length = chunkLen a d.length := by rw [List.length_take]; omega
      have := Pieces.cons (a := a) (List.ne_nil_of_length_pos (by rw [htake]; omega))
        (by rw [htake]; exact ih (a + chunkLen a d.length) (d.drop (chunkLen a d.length)) (by rw [List.length_drop]; omega))
      rwa [List.take_append_drop, ← chunks_succ f a d hd] at this

theorem mergeGo_chunks (fuel : Nat) : ∀ (s0 e : Nat) (accs : List Bytes) (d : Bytes), d.length ≤ fuel →
    mergeGo (s0, e, accs) [] (chunks fuel e d) = some [(s0, accs.reverse.flatten ++ d)] := by
  intro s0 e accs d hl
  obtain ⟨accs', hflat, hrun⟩ := mergeGo_pieces (chunks_pieces fuel e d hl) s0 [] [] accs
  rw [List.append_nil] at hrun
  simp [hrun, mergeGo, hflat]

theorem canon_chunks (fuel addr : Nat) (data : Bytes) (hl : data.length ≤ fuel) (hd : data ≠ []) :
    canon (chunks fuel addr data) = some [(addr, data)] :=
  canon_cut [(addr, data)] _ (by simpa using Cut.cons (chunks_pieces fuel addr data hl) Cut.nil) hd

end SuitVerif.IHex
