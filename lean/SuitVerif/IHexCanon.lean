import SuitVerif.IHex
/-! The canonical form of a memory image.  What the strict reader returns is canonical: `canon img = some c → Separated c` (non-empty blocks,
ascending, at least one undefined address between them); and a canonical image, with its blocks cut into consecutive pieces in any way, has
itself as canonical form (`canon_cut`): contiguity of the pieces is all that merging needs.  The writer models (`IHexWrite.lean`,
`IHexImage.lean`) only have to show that their data records are such pieces. -/

namespace SuitVerif.IHex
open SuitVerif

/-- canonical image: non-empty blocks, ascending, each separated from the next by at least one undefined address -/
def Separated : List (Nat × Bytes) → Prop
  | [] => True
  | [s] => s.2 ≠ []
  | s :: t :: rest => s.2 ≠ [] ∧ s.1 + s.2.length < t.1 ∧ Separated (t :: rest)

theorem sep_cons (s : Nat × Bytes) (rest : List (Nat × Bytes)) :
    Separated (s :: rest) ↔ s.2 ≠ [] ∧ (∀ y ys, rest = y :: ys → s.1 + s.2.length < y.1) ∧ Separated rest := by
  cases rest <;> simp [Separated]

theorem sep_snoc : ∀ (l : List (Nat × Bytes)) (r : Nat × Bytes), Separated l → r.2 ≠ [] →
    (∀ x, l.getLast? = some x → x.1 + x.2.length < r.1) → Separated (l ++ [r]) := by
  intro l
  induction l with
  | nil => intro r _ hr _; exact hr
  | cons s t ih =>
    intro r hsep hr hlast
    cases t with
    | nil => exact ⟨hsep, hlast s rfl, hr⟩
    | cons t' rest =>
      obtain ⟨hs, hgap, hsep'⟩ := hsep
      exact ⟨hs, hgap, ih r hsep' hr (fun x hx => hlast x (by simpa [List.getLast?_cons_cons] using hx))⟩

theorem sep_run (acc : List (Nat × Bytes)) (r : Nat × Bytes) (hsep : Separated acc.reverse) (hr : r.2 ≠ [])
    (hhead : ∀ x, acc.head? = some x → x.1 + x.2.length < r.1) : Separated (r :: acc).reverse := by
  rw [List.reverse_cons]
  exact sep_snoc _ r hsep hr (fun x hx => hhead x (by rwa [List.getLast?_reverse] at hx))

theorem mem_insertSeg (x y : Nat × Bytes) (l : List (Nat × Bytes)) : y ∈ insertSeg x l ↔ y = x ∨ y ∈ l := by
  induction l with
  | nil => simp [insertSeg]
  | cons z zs ih => unfold insertSeg; split <;> simp [ih, or_left_comm]

theorem mem_sortSegs (y : Nat × Bytes) (l : List (Nat × Bytes)) : y ∈ sortSegs l ↔ y ∈ l := by
  induction l with
  | nil => simp [sortSegs]
  | cons x xs ih => show y ∈ insertSeg x (sortSegs xs) ↔ _; simp [mem_insertSeg, ih]

theorem mergeGo_sep : ∀ (rest : List (Nat × Bytes)) (s0 e : Nat) (accs : List Bytes) (acc out : List (Nat × Bytes)),
    mergeGo (s0, e, accs) acc rest = some out →
    accs.reverse.flatten ≠ [] → s0 + accs.reverse.flatten.length = e →
    Separated acc.reverse → (∀ x, acc.head? = some x → x.1 + x.2.length < s0) →
    (∀ x ∈ rest, x.2 ≠ []) → Separated out := by
  intro rest
  induction rest with
  | nil =>
    intro s0 e accs acc out h hne hlen hsep hhead _
    simp only [mergeGo, Option.some.injEq] at h
    subst h
    exact sep_run acc _ hsep hne hhead
  | cons sb rest ih =>
    intro s0 e accs acc out h hne hlen hsep hhead hrest
    obtain ⟨s, b⟩ := sb
    have hb : b ≠ [] := hrest (s, b) (by simp)
    have hrest' : ∀ x ∈ rest, x.2 ≠ [] := fun x hx => hrest x (by simp [hx])
    simp only [mergeGo] at h
    split at h
    · cases h
    · split at h
      · -- the run goes on
        refine ih s0 (s + b.length) (b :: accs) acc out h ?_ ?_ hsep hhead hrest'
        · simp [hb]
        · simp only [List.reverse_cons, List.flatten_append, List.flatten_cons, List.flatten_nil, List.append_nil, List.length_append]
          omega
      · -- the run is finished, with a gap before `s`
        refine ih s (s + b.length) [b] ((s0, accs.reverse.flatten) :: acc) out h (by simpa using hb) (by simp)
          (sep_run acc _ hsep hne hhead) ?_ hrest'
        intro x hx
        simp only [List.head?_cons, Option.some.injEq] at hx
        subst hx
        show s0 + accs.reverse.flatten.length < s
        omega

/-- An invariant of the merge alone (`mergeGo_sep`), no sortedness needed, because `mergeGo` refuses a block that starts before
the end of the current run. -/
theorem canon_sep (img c : Image) (h : canon img = some c) : Separated c := by
  unfold canon at h
  have hall : ∀ x ∈ sortSegs (img.filter (fun s => s.2 ≠ [])), x.2 ≠ [] := by
    intro x hx
    simpa using (List.mem_filter.mp ((mem_sortSegs x _).mp hx)).2
  generalize sortSegs (img.filter (fun s => s.2 ≠ [])) = l at h hall
  cases l with
  | nil => simp [mergeSorted] at h; subst h; trivial
  | cons sb rest =>
    obtain ⟨s, b⟩ := sb
    have hb : b ≠ [] := hall (s, b) (by simp)
    exact mergeGo_sep rest s (s + b.length) [b] [] c h (by simpa using hb) (by simp) trivial (by intro x hx; simp at hx)
      (fun x hx => hall x (by simp [hx]))

/-- whatever the strict reader returns for a file is a canonical image -/
theorem read_sep (text : String) (c : Image) (h : read text = some c) : Separated c := by
  unfold read at h
  simp only at h
  split at h
  · split at h
    · exact canon_sep _ _ h
    · cases h
  · cases h

/-- `ps` cuts the bytes `d` at address `a` into consecutive non-empty pieces -/
inductive Pieces : Nat → Bytes → List (Nat × Bytes) → Prop
  | nil (a : Nat) : Pieces a [] []
  | cons {a : Nat} {b d : Bytes} {ps : List (Nat × Bytes)} : b ≠ [] → Pieces (a + b.length) d ps → Pieces a (b ++ d) ((a, b) :: ps)

/-- `ps` is the image `c` with every block cut into pieces -/
inductive Cut : Image → List (Nat × Bytes) → Prop
  | nil : Cut [] []
  | cons {a : Nat} {d : Bytes} {ps qs : List (Nat × Bytes)} {c : Image} : Pieces a d ps → Cut c qs → Cut ((a, d) :: c) (ps ++ qs)

theorem Pieces.single (a : Nat) (d : Bytes) (h : d ≠ []) : Pieces a d [(a, d)] := by
  simpa using Pieces.cons h (Pieces.nil (a + d.length))

theorem Pieces.head {a : Nat} {d : Bytes} {ps : List (Nat × Bytes)} (h : Pieces a d ps) (hd : d ≠ []) : ∃ b ps', ps = (a, b) :: ps' := by
  cases h with
  | nil => exact absurd rfl hd
  | cons _ _ => exact ⟨_, _, rfl⟩

theorem Pieces.nonempty {a : Nat} {d : Bytes} {ps : List (Nat × Bytes)} (h : Pieces a d ps) : ∀ p ∈ ps, p.2 ≠ [] := by
  induction h with
  | nil => simp
  | cons hb _ ih => simpa [hb] using ih

theorem Cut.nonempty {c : Image} {ps : List (Nat × Bytes)} (h : Cut c ps) : ∀ p ∈ ps, p.2 ≠ [] := by
  induction h with
  | nil => simp
  | cons hp _ ih => intro p hp'; exact (List.mem_append.mp hp').elim (hp.nonempty p) (ih p)

theorem Cut.refl : ∀ (c : Image), Separated c → Cut c c
  | [], _ => Cut.nil
  | (a, d) :: c, h =>
    have ⟨hd, _, hc⟩ := (sep_cons (a, d) c).mp h
    Cut.cons (Pieces.single a d hd) (Cut.refl c hc)

def SortedFrom (a : Nat) (l : List (Nat × Bytes)) : Prop := sortSegs l = l ∧ ∀ y ys, l = y :: ys → a ≤ y.1

theorem SortedFrom.cons {a : Nat} {l : List (Nat × Bytes)} (x : Nat × Bytes) (h : SortedFrom a l) (hx : x.1 ≤ a) : SortedFrom x.1 (x :: l) := by
  refine ⟨?_, fun y ys hy => by cases hy; exact Nat.le_refl _⟩
  show insertSeg x (sortSegs l) = x :: l
  rw [h.1]
  cases l with
  | nil => rfl
  | cons y ys => simp [insertSeg, Nat.le_trans hx (h.2 y ys rfl)]

theorem Pieces.sortedFrom {a : Nat} {d : Bytes} {ps rest : List (Nat × Bytes)} (h : Pieces a d ps) :
    SortedFrom (a + d.length) rest → SortedFrom a (ps ++ rest) := by
  induction h with
  | nil a => exact id
  | cons _ _ ih =>
    intro hr
    exact SortedFrom.cons _ (ih (by simpa [Nat.add_assoc] using hr)) (Nat.le_add_right _ _)

theorem Cut.sortedFrom {c : Image} {ps : List (Nat × Bytes)} (h : Cut c ps) : Separated c →
    ∀ a, (∀ y ys, c = y :: ys → a ≤ y.1) → SortedFrom a ps := by
  induction h with
  | nil => intro _ a _; exact ⟨rfl, fun y ys hy => by cases hy⟩
  | cons hp _ ih =>
    intro hsep a ha
    obtain ⟨_, hgap, hsep'⟩ := (sep_cons _ _).mp hsep
    have := hp.sortedFrom (ih hsep' _ (fun y ys hy => Nat.le_of_lt (hgap y ys hy)))
    exact ⟨this.1, fun y ys hy => Nat.le_trans (ha _ _ rfl) (this.2 y ys hy)⟩

theorem Cut.sorted {c : Image} {ps : List (Nat × Bytes)} (h : Cut c ps) (hsep : Separated c) : sortSegs ps = ps :=
  (h.sortedFrom hsep 0 (fun _ _ _ => Nat.zero_le _)).1

/-- `accs'`: the pieces of the run afterwards; only their concatenation is ever looked at. -/
theorem mergeGo_pieces {e : Nat} {d : Bytes} {ps : List (Nat × Bytes)} (h : Pieces e d ps) (s0 : Nat) (acc rest : List (Nat × Bytes)) :
    ∀ accs, ∃ accs', accs'.reverse.flatten = accs.reverse.flatten ++ d
      ∧ mergeGo (s0, e, accs) acc (ps ++ rest) = mergeGo (s0, e + d.length, accs') acc rest := by
  induction h with
  | nil e => intro accs; exact ⟨accs, by simp, by simp⟩
  | @cons a b d ps _ _ ih =>
    intro accs
    obtain ⟨accs', hflat, hrun⟩ := ih (b :: accs)
    exact ⟨accs', by simp [hflat], by simp [mergeGo, hrun, Nat.add_assoc]⟩

/-- merging with no run open: the first segment is contiguous with an empty run at its own address -/
def mergeFrom (acc : List (Nat × Bytes)) : List (Nat × Bytes) → Option (List (Nat × Bytes))
  | [] => some acc.reverse
  | (s, b) :: r => mergeGo (s, s, []) acc ((s, b) :: r)

theorem mergeSorted_eq (l : List (Nat × Bytes)) : mergeSorted l = mergeFrom [] l := by
  cases l <;> simp [mergeSorted, mergeFrom, mergeGo]

theorem mergeGo_gap (s0 e : Nat) (accs : List Bytes) (acc l : List (Nat × Bytes)) (h : ∀ y ys, l = y :: ys → e < y.1) :
    mergeGo (s0, e, accs) acc l = mergeFrom ((s0, accs.reverse.flatten) :: acc) l := by
  cases l with
  | nil => rfl
  | cons x r =>
    have := h x r rfl
    simp [mergeGo, mergeFrom, Nat.lt_asymm this, Nat.ne_of_gt this]

theorem mergeFrom_cut {c : Image} {ps : List (Nat × Bytes)} (h : Cut c ps) : Separated c →
    ∀ acc, mergeFrom acc ps = some (acc.reverse ++ c) := by
  induction h with
  | nil => intro _ acc; simp [mergeFrom]
  | @cons a d ps qs c hp hq ih =>
    intro hsep acc
    obtain ⟨hne, hgap, hsep'⟩ := (sep_cons _ _).mp hsep
    obtain ⟨b, ps', rfl⟩ := hp.head hne
    obtain ⟨accs', hflat, hrun⟩ := mergeGo_pieces hp a acc qs []
    -- the blocks after this one begin above its end, and so do their pieces
    have hgap' := (hq.sortedFrom hsep' (a + d.length + 1) hgap).2
    rw [List.cons_append, mergeFrom, ← List.cons_append, hrun, mergeGo_gap _ _ _ _ _ hgap', ih hsep', hflat]
    simp

theorem canon_cut (c : Image) (ps : List (Nat × Bytes)) (hcut : Cut c ps) (hsep : Separated c) : canon ps = some c := by
  rw [canon, List.filter_eq_self.mpr (by simpa using hcut.nonempty), hcut.sorted hsep, mergeSorted_eq, mergeFrom_cut hcut hsep]
  rfl

theorem canon_fixed (c : Image) (h : Separated c) : canon c = some c := canon_cut c c (Cut.refl c h) h

theorem canon_single (a : Nat) (b : Bytes) (h : b ≠ []) : canon [(a, b)] = some [(a, b)] := canon_fixed [(a, b)] h

theorem canon_single_empty (a : Nat) : canon [(a, ([] : Bytes))] = some [] := rfl

/-- So the predicates of the properties (`checkStorage`, `checkDfu`, `checkRecord`, `checkMerge`), which look at `canon img`, look at the image
the reader returned. -/
theorem read_canon (text : String) (c : Image) (h : read text = some c) : canon c = some c := canon_fixed c (read_sep text c h)

end SuitVerif.IHex
