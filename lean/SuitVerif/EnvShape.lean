import SuitVerif.Typing
import SuitVerif.EncodeProofs
import SuitVerif.Generated.Schema
import SuitVerif.Spec
/-! The shape of the envelope tree on its digest paths (`EnvShape`), in three steps: what a schema has to say about those paths
(`EnvFacts`, a decidable description checked by the kernel on the extracted schema) and what typing then says of digests and of
key/value maps (`IsDigest`, `KvGood`, `lookup_kvPairs`); the shape of the tree `from_obj` builds for the envelope class
(`envShape_of_typed`); the shape survives both digest updates (`shape_updateSeverable`, `shape_updateDigest`), so the tree `create`
serialises has it. -/
namespace SuitVerif.Typing
open SuitVerif SuitVerif.Encode SuitVerif.Decode SuitVerif.Py

inductive IsAlg (algs : List (String × Int)) : Node → Prop
  | enumv {e} : e ∈ algs → IsAlg algs (.enumv e.1 e.2)
  | null : IsAlg algs (.leaf Cbor.null .plain)

/-- a SUIT_Digest node: the pair `[alg, bytes]` under union layers only (no byte-string layer) -/
inductive IsDigest (algs : List (String × Int)) : Node → Prop
  | tuple {ks a b} : IsAlg algs a → IsDigest algs (.tuple ks [a, .leaf (.bstr b) .hex])
  | alt {i c n} : IsDigest algs n → IsDigest algs (.alt i c n)

def isDigestCls (s : Schema) (algs : List (String × Int)) : Nat → Cls → Bool
  | 0, _ => false
  | fuel + 1, c =>
    match s.ty c with
    | some (.union alts) => alts.all (fun a => isDigestCls s algs fuel a)
    | some (.digestExt raw) => isDigestCls s algs fuel raw
    | some (.tupleNamed [(a, ca), (b, cb)]) =>
        !a.endsWith "*" && !b.endsWith "*" && decide (s.ty ca = some (.enum algs))
          && (decide (s.ty cb = some .hex) || decide (s.ty cb = some .bstr))
    | _ => false

theorem isDigest_of_typed (s : Schema) (algs : List (String × Int)) : ∀ (fuel : Nat) (c : Cls) (n : Node),
    isDigestCls s algs fuel c = true → HasTy s c n → IsDigest algs n := by
  intro fuel
  induction fuel with
  | zero => intro c n h; simp [isDigestCls] at h
  | succ fuel ih =>
    intro c n h ht
    unfold isDigestCls at h
    split at h
    · rename_i alts hty
      obtain ⟨i, ci, m, hi, rfl, hm⟩ := ht.inv hty
      have hci : ci ∈ alts := List.mem_of_getElem? hi
      exact .alt (ih ci m (List.all_eq_true.mp h ci hci) hm)
    · rename_i raw hty
      exact ih raw n h (ht.inv hty)
    · rename_i a ca b cb hty
      simp only [Bool.and_eq_true, Bool.not_eq_true', decide_eq_true_eq, Bool.or_eq_true] at h
      obtain ⟨⟨⟨ha, hb⟩, hca⟩, hcb⟩ := h
      obtain ⟨ns, rfl, htup⟩ := ht.inv hty
      obtain ⟨x, _, rfl, hx, htup⟩ := htup.inv_field ha
      obtain ⟨y, _, rfl, hy, htup⟩ := htup.inv_field hb
      cases htup
      obtain ⟨bb, rfl⟩ : ∃ b, y = .leaf (.bstr b) .hex := hcb.elim hy.inv hy.inv
      rcases hx.inv hca with ⟨e, he, rfl⟩ | rfl
      · exact .tuple (.enumv he)
      · exact .tuple .null
    · simp at h

/-- what `kvPairs` needs for integer lookups to be the members: non-merged ids pairwise different; merged members
(flattened payload maps) have text keys only -/
structure KvGood (r : List (KvKey × Node)) : Prop where
  nodup : ((r.filter (fun p => !p.1.merge)).map (·.1.id)).Nodup
  merged : ∀ p ∈ r, p.1.merge = true → ∃ m, p.2.toVal = .map m ∧ ∀ q ∈ m, ∃ t, q.1 = .tstr t

theorem KvGood.tail {p r} (h : KvGood (p :: r)) : KvGood r :=
  ⟨(((List.sublist_cons_self p r).filter _).map _).nodup h.nodup, fun q hq => h.merged q (List.mem_cons_of_mem _ hq)⟩

theorem kvGet_none_of_not_mem (r : List (KvKey × Node)) (k : Int)
    (h : k ∉ (r.filter (fun p => !p.1.merge)).map (·.1.id)) : kvGet r k = none := by
  unfold kvGet
  rw [Option.map_eq_none_iff, List.find?_eq_none]
  intro p hp hc
  simp only [Bool.and_eq_true, beq_iff_eq, Bool.not_eq_true'] at hc
  exact h (List.mem_map.mpr ⟨p, List.mem_filter.mpr ⟨hp, by simp [hc.2]⟩, hc.1⟩)

theorem lookup_kvPairs (k : Int) : ∀ (r : List (KvKey × Node)) (acc : List (Cbor × Cbor)), KvGood r →
    Cbor.lookup (Cbor.ofInt k) (kvPairs r acc) =
      (match kvGet r k with
       | some n => some n.toVal
       | none => Cbor.lookup (Cbor.ofInt k) acc) := by
  intro r
  induction r with
  | nil => intro acc _; simp [kvPairs, kvGet]
  | cons p rest ih =>
    intro acc hg
    obtain ⟨key, n⟩ := p
    rw [kvPairs, kvGet_cons]
    by_cases hm : key.merge = true
    · -- a flattened payload map has text keys only: integer lookups pass through it
      obtain ⟨m, hmv, hmk⟩ := hg.merged (key, n) (by simp) hm
      have hpass : Cbor.lookup (Cbor.ofInt k) (dictUpdate acc m) = Cbor.lookup (Cbor.ofInt k) acc := by
        refine Cbor.lookup_dictUpdate_ne _ m (fun q hq => ?_) acc
        obtain ⟨t, ht⟩ := hmk q hq
        rw [ht]
        unfold Cbor.ofInt
        split <;> nofun
      simp only [hm, if_true, Bool.not_true, Bool.and_false, Bool.false_eq_true, if_false]
      rw [ih _ hg.tail, hmv, hpass]
    · simp only [Bool.not_eq_true] at hm
      simp only [hm, Bool.false_eq_true, if_false, Bool.not_false, Bool.and_true, beq_iff_eq]
      rw [ih _ hg.tail]
      by_cases hk : key.id = k
      · have hnd := hg.nodup
        simp only [List.filter, hm, Bool.not_false, List.map_cons, List.nodup_cons] at hnd
        rw [if_pos hk, kvGet_none_of_not_mem rest k (hk ▸ hnd.1), hk]
        exact Cbor.lookup_dictSet_self _ _ _
      · rw [if_neg hk, Cbor.lookup_dictSet_ne _ _ (fun h => hk (Cbor.ofInt_inj h))]

def idsOk (es : List Entry) : Bool := decide (((es.filter (fun e => !e.merge)).map (·.id)).Nodup)

def mergeOk (s : Schema) (es : List Entry) : Bool :=
  es.all (fun e => !e.merge ||
    (match s.ty e.cls with
     | some (.payloadMap kc _) => decide (s.ty kc = some .tstr)
     | _ => false))

theorem kvuPairs_keys_tstr {s kc} (hkc : s.ty kc = some .tstr) : ∀ (r : List (String × Node × Node)) (acc : List (Cbor × Cbor)),
    KvuTy s kc r → (∀ q ∈ acc, ∃ t, q.1 = .tstr t) → ∀ q ∈ kvuPairs r acc, ∃ t, q.1 = .tstr t := by
  intro r
  induction r with
  | nil => intro acc _ hacc; simpa [kvuPairs] using hacc
  | cons p rest ih =>
    intro acc ht hacc
    obtain ⟨k, kn, vn⟩ := p
    cases ht with
    | cons hk hr =>
      simp only [kvuPairs]
      have hkn : kn.toVal = .tstr (utf8 k) := by rw [hk hkc]; rfl
      rw [hkn]
      exact ih _ hr (dictSet_keys (P := fun c => ∃ t, c = .tstr t) acc _ _ ⟨_, rfl⟩ hacc)

theorem idsOk_inj {es : List Entry} (hids : idsOk es = true) {e e' : Entry} (he : e ∈ es) (he' : e' ∈ es)
    (hm : e.merge = false) (hm' : e'.merge = false) (hid : e.id = e'.id) : e = e' := by
  have hnd : ((es.filter (fun e => !e.merge)).map (·.id)).Nodup := by simpa [idsOk] using hids
  have hp := List.pairwise_map.mp hnd
  -- "same id, hence equal" holds of a member with itself, and of two different positions in either order for want of a same id
  exact List.Pairwise.forall_of_forall_of_flip (R := fun a b => a.id = b.id → a = b) (fun _ _ _ => rfl)
    (hp.imp fun hne h => absurd h hne) (hp.imp fun hne h => absurd h.symm hne)
    (List.mem_filter.mpr ⟨he, by simp [hm]⟩) (List.mem_filter.mpr ⟨he', by simp [hm']⟩) hid

theorem kvGood_of_typed {s es r} (ht : KvTy s es r) (hk : KeysDistinct r) (hids : idsOk es = true) (hm : mergeOk s es = true) :
    KvGood r := by
  refine ⟨?_, ?_⟩
  · -- two non-merged members with the same id come from the same entry of the schema, hence have the same key
    rw [List.nodup_iff_pairwise_ne, List.pairwise_map]
    refine ((List.pairwise_map.mp (List.nodup_iff_pairwise_ne.mp hk)).filter _).imp_of_mem ?_
    intro p q hp hq hne hid
    obtain ⟨hp, hpm⟩ := List.mem_filter.mp hp
    obtain ⟨hq, hqm⟩ := List.mem_filter.mp hq
    obtain ⟨e, he, hpe, _⟩ := ht.mem p hp
    obtain ⟨e', he', hqe, _⟩ := KvTy.mem ht q hq
    rw [hpe, hqe] at hne hid
    rw [hpe] at hpm
    rw [hqe] at hqm
    simp only [entryKey, Bool.not_eq_true'] at hpm hqm hid
    exact hne (by rw [idsOk_inj hids he he' hpm hqm hid])
  · intro p hp hpm
    obtain ⟨e, he, hpe, hty⟩ := ht.mem p hp
    have hem : e.merge = true := by rw [hpe] at hpm; exact hpm
    have := List.all_eq_true.mp hm e he
    simp only [hem, Bool.not_true, Bool.false_or] at this
    split at this
    · rename_i kc vc hcls
      obtain ⟨r', hr', hku⟩ := hty.inv hcls
      exact ⟨kvuPairs r' [], by rw [hr']; rfl, kvuPairs_keys_tstr (by simpa using this) r' [] hku (by simp)⟩
    · cases this

def entryCls (es : List Entry) (id : Int) : Option Cls := (es.find? (fun e => e.id == id && !e.merge)).map (·.cls)

/-- the six keys of `Encode.severableKeys` (there in the order of the code) and `Spec.severableKeys` (there as `Nat`); `decide`
bridges the three lists where they meet -/
def sevKeys : List Int := [15, 16, 17, 18, 20, 23]

def isCbstr (s : Schema) (c : Cls) : Bool := match s.ty c with | some (.cbstr _) => true | _ => false

/-- alternatives of a severable member that are not a digest: their value (a byte string, a text-keyed map) is not of the form
`[alg, bstr]`, so `Spec.digestPair` answers `none` on it -/
def nonDigestCls (s : Schema) (c : Cls) : Bool :=
  match s.ty c with
  | some (.cbstr _) => true
  | some (.keyValueUnnamed _) => true
  | _ => false

/-- a severable member of the manifest: a union whose alternative named `SuitDigest` (what `Encode.isDigestAlt` tests on the
tree) is a digest and whose other alternatives are not.  The budget `8` of `isDigestCls`, here and in `EnvFacts`, bounds the
nesting of unions and `digestExt` classes above the pair `[alg, bytes]` -/
def isSevCls (s : Schema) (algs : List (String × Int)) (c : Cls) : Bool :=
  match s.ty c with
  | some (.union alts) => alts.all (fun a => if s.name a == "SuitDigest" then isDigestCls s algs 8 a else nonDigestCls s a)
  | _ => false

def hashEnum (s : Schema) : List (String × Int) :=
  match s.classes.find? (fun c => c.1 == "SuitCoseHashAlg") with
  | some (_, .enum es) => es
  | _ => []

/-- The digest paths of a schema as one existential statement over decidable checks: the envelope class (tag 107 over a
key/value map), member 2 (byte-string-wrapped tuple whose first field is a byte-string-wrapped digest), member 3 (the manifest:
byte-string-wrapped key/value map), and for the severable keys the shape of the envelope's and of the manifest's member.  The
class numbers are existential so that unification finds them along the path (the `rfl`s of `generated_envFacts`, in path order)
and a renumbering of the classes does not disturb the proof. -/
def EnvFacts (s : Schema) : Prop :=
  ∃ nm cKv es emb cAuth cAuthT f cDigW rest cDig cMan cManKv mes memb,
    s.ty s.envelope = some (.tag 107 nm cKv) ∧ s.ty cKv = some (.keyValue es emb) ∧
    idsOk es = true ∧ mergeOk s es = true ∧
    entryCls es 2 = some cAuth ∧ s.ty cAuth = some (.cbstr cAuthT) ∧ s.ty cAuthT = some (.tupleNamed ((f, cDigW) :: rest)) ∧
    f.endsWith "*" = false ∧ s.ty cDigW = some (.cbstr cDig) ∧ isDigestCls s (hashEnum s) 8 cDig = true ∧
    entryCls es 3 = some cMan ∧ s.ty cMan = some (.cbstr cManKv) ∧ s.ty cManKv = some (.keyValue mes memb) ∧
    idsOk mes = true ∧ mergeOk s mes = true ∧
    sevKeys.all (fun k => match entryCls es k with | some c => isCbstr s c | none => true) = true ∧
    sevKeys.all (fun k => match entryCls mes k with | some c => isSevCls s (hashEnum s) c | none => true) = true

theorem generated_envFacts : EnvFacts Generated.schema := by
  refine ⟨_, _, _, _, _, _, _, _, _, _, _, _, _, _, rfl, rfl, ?_, ?_, rfl, rfl, rfl, ?_, rfl, ?_, rfl, rfl, rfl, ?_, ?_, ?_, ?_⟩
  all_goals decide +kernel

/-! ### the shape, from typing and the schema facts -/

/-- the manifest's entry for a severable member: a digest (the alternative named `SuitDigest`), or something `Spec.digestPair`
does not take for one -/
def SevEntryShape (algs : List (String × Int)) (entry : Node) : Prop :=
  (isDigestAlt entry = true ∧ IsDigest algs entry) ∨ (isDigestAlt entry = false ∧ Spec.digestPair entry.toVal = none)

/-- the envelope tree on its digest paths: integer lookups in its encoding find the members (`good`); member 2 is
`bstr [bstr digest, …]`; member 3 is a `bstr` key/value map whose severable entries have `SevEntryShape`; severed members are
byte-string-wrapped -/
structure EnvShape (algs : List (String × Int)) (es : List (KvKey × Node)) : Prop where
  good : KvGood es
  auth : ∀ a, kvGet es 2 = some a → ∃ ks dg blocks, a = .wrapped (.tuple ks (.wrapped dg :: blocks)) ∧ IsDigest algs dg
  man : ∀ m, kvGet es 3 = some m → ∃ mes, m = .wrapped (.kv mes) ∧ KvGood mes ∧
          ∀ k ∈ sevKeys, ∀ entry, kvGet mes k = some entry → SevEntryShape algs entry
  sev : ∀ k ∈ sevKeys, ∀ sv, kvGet es k = some sv → ∃ x, sv = .wrapped x

theorem kvGet_typed {s es r k n} (ht : KvTy s es r) (hids : idsOk es = true) (h : kvGet r k = some n) :
    ∃ c, entryCls es k = some c ∧ HasTy s c n := by
  unfold kvGet at h
  obtain ⟨p, hp, rfl⟩ := Option.map_eq_some_iff.mp h
  have hpred := List.find?_some hp
  obtain ⟨e, he, hpe, hty⟩ := ht.mem p (List.mem_of_find?_eq_some hp)
  simp only [hpe, entryKey, Bool.and_eq_true, beq_iff_eq, Bool.not_eq_true'] at hpred
  refine ⟨e.cls, ?_, hty⟩
  unfold entryCls
  cases hf : es.find? (fun e => e.id == k && !e.merge) with
  | none => exact absurd (by simpa using hpred) (List.find?_eq_none.mp hf e he)
  | some e0 =>
    have h0 := List.find?_some hf
    simp only [Bool.and_eq_true, beq_iff_eq, Bool.not_eq_true'] at h0
    rw [idsOk_inj hids (List.mem_of_find?_eq_some hf) he h0.2 hpred.2 (h0.1.trans hpred.1.symm)]
    rfl

theorem sevEntry_of_typed {s : Schema} {algs : List (String × Int)} {c : Cls} {entry : Node} (hc : isSevCls s algs c = true)
    (ht : HasTy s c entry) : SevEntryShape algs entry := by
  unfold isSevCls at hc
  split at hc
  · rename_i alts hty
    obtain ⟨i, ci, x, hi, rfl, hx⟩ := ht.inv hty
    have hci : ci ∈ alts := List.mem_of_getElem? hi
    have := List.all_eq_true.mp hc ci hci
    by_cases hname : (s.name ci == "SuitDigest") = true
    · simp only [hname, if_true] at this
      exact Or.inl ⟨by simp [isDigestAlt, hname], .alt (isDigest_of_typed s _ 8 ci x this hx)⟩
    · simp only [hname, Bool.false_eq_true, if_false] at this
      refine Or.inr ⟨by simp only [isDigestAlt]; simpa using hname, ?_⟩
      unfold nonDigestCls at this
      split at this
      · rename_i inner hcb
        obtain ⟨m, rfl, _⟩ := hx.inv hcb
        simp [Node.toVal, Spec.digestPair]
      · rename_i es' hku
        obtain ⟨r, rfl⟩ := hx.inv hku
        simp [Node.toVal, Spec.digestPair]
      · simp at this
  · simp at hc

theorem envShape_of_typed {s : Schema} (hf : EnvFacts s) {n0 : Node} (ht : HasTy s s.envelope n0) :
    ∃ nm es, n0 = .tagged 107 nm (.kv es) ∧ EnvShape (hashEnum s) es := by
  obtain ⟨nm, cKv, es, emb, cAuth, cAuthT, f, cDigW, rest, cDig, cMan, cManKv, mes, memb,
    h0, h1, hids, hmerge, hA, hA1, hA2, hfstar, hD1, hD2, hM, hM1, hM2, hmids, hmmerge, hsevE, hsevM⟩ := hf
  obtain ⟨m, rfl, hm⟩ := ht.inv h0
  obtain ⟨r, rfl, hkv, hkd⟩ := hm.inv h1
  refine ⟨nm, r, rfl, ⟨kvGood_of_typed hkv hkd hids hmerge, ?_, ?_, ?_⟩⟩
  · intro a ha
    obtain ⟨c, hc, hty⟩ := kvGet_typed hkv hids ha
    rw [hA] at hc
    cases hc
    obtain ⟨x, rfl, hx⟩ := hty.inv hA1
    obtain ⟨ns, rfl, htup⟩ := hx.inv hA2
    obtain ⟨y, _, rfl, hy, -⟩ := htup.inv_field hfstar
    obtain ⟨dg, rfl, hdg⟩ := hy.inv hD1
    exact ⟨_, dg, _, rfl, isDigest_of_typed _ _ 8 cDig dg hD2 hdg⟩
  · intro mm hmm
    obtain ⟨c, hc, hty⟩ := kvGet_typed hkv hids hmm
    rw [hM] at hc
    cases hc
    obtain ⟨x, rfl, hx⟩ := hty.inv hM1
    obtain ⟨rm, rfl, hkvm, hkdm⟩ := hx.inv hM2
    refine ⟨rm, rfl, kvGood_of_typed hkvm hkdm hmids hmmerge, ?_⟩
    intro k hk entry hentry
    obtain ⟨c, hc, hty2⟩ := kvGet_typed hkvm hmids hentry
    have := List.all_eq_true.mp hsevM k hk
    rw [hc] at this
    exact sevEntry_of_typed this hty2
  · intro k hk sv hsv
    obtain ⟨c, hc, hty2⟩ := kvGet_typed hkv hids hsv
    have := List.all_eq_true.mp hsevE k hk
    simp only [hc, isCbstr] at this
    split at this
    · rename_i inner hcb
      obtain ⟨x, rfl, _⟩ := hty2.inv hcb
      exact ⟨x, rfl⟩
    · cases this

/-! ### the shape survives both digest updates -/

theorem isDigest_setDigestBytes {algs} (d : Bytes) {n : Node} (h : IsDigest algs n) : IsDigest algs (setDigestBytes d n) := by
  induction h with
  | tuple ha => exact .tuple ha
  | alt _ ih => exact .alt ih

theorem kvGood_kvReplace {es : List (KvKey × Node)} (h : KvGood es) (id : Int) (x : Node) : KvGood (kvReplace es id x) := by
  have hkey : ∀ e : KvKey × Node, (if e.1.id == id && !e.1.merge then (e.1, x) else e).1 = e.1 := fun e => by split <;> rfl
  refine ⟨?_, ?_⟩
  · have := h.nodup
    rw [kvReplace, List.filter_map, List.map_map]
    simpa only [Function.comp_def, hkey] using this
  · intro p hp hpm
    obtain ⟨e, he, rfl⟩ := List.mem_map.mp hp
    split at hpm
    · simp_all
    · rename_i hc
      simp only [hc, Bool.false_eq_true, if_false]
      exact h.merged e he hpm

theorem sevKeys_ne {k : Int} (hk : k ∈ sevKeys) : 2 ≠ k ∧ 3 ≠ k := by
  revert k; decide

theorem shape_updateSeverable1 {algs} {cx : Ctx} {t : Nat} {nm : String} {es : List (KvKey × Node)} {key : Int} {env' : Node}
    (hs : EnvShape algs es) (h : updateSeverable1 cx (.tagged t nm (.kv es)) key = .ok env') :
    ∃ es', env' = .tagged t nm (.kv es') ∧ EnvShape algs es' := by
  obtain ⟨_, _, _, m, mes, he, hm, hmes, hcase⟩ := updateSeverable1_ok h
  cases he
  rcases hcase with ⟨rfl, -⟩ | ⟨entry, sev, alg, d, hentry, hda, -, -, -, rfl⟩
  · exact ⟨es, rfl, hs⟩
  obtain ⟨mes', rfl, hgoodm, hent⟩ := hs.man m hm
  cases hmes
  refine ⟨_, rfl, kvGood_kvReplace hs.good _ _, ?_, ?_, ?_⟩
  · intro a ha
    rw [kvGet_kvReplace_other es _ (by decide)] at ha
    exact hs.auth a ha
  · intro m' hm'
    rw [kvGet_kvReplace_same _ hm] at hm'
    cases hm'
    refine ⟨_, rfl, kvGood_kvReplace hgoodm _ _, ?_⟩
    intro k hk entry' hentry'
    by_cases hkk : key = k
    · subst hkk
      rw [kvGet_kvReplace_same _ hentry] at hentry'
      cases hentry'
      rcases hent key hk entry hentry with ⟨_, hd⟩ | ⟨hf, _⟩
      · exact .inl ⟨isDigestAlt_setDigestBytes d entry hda, isDigest_setDigestBytes d hd⟩
      · rw [hda] at hf; cases hf
    · rw [kvGet_kvReplace_other mes _ hkk] at hentry'
      exact hent k hk entry' hentry'
  · intro k hk sv hsv
    rw [kvGet_kvReplace_other es _ (sevKeys_ne hk).2] at hsv
    exact hs.sev k hk sv hsv

theorem shape_updateSeverable {algs} {cx : Ctx} {t : Nat} {nm : String} {es : List (KvKey × Node)} {env' : Node}
    (hs : EnvShape algs es) (h : updateSeverable cx (.tagged t nm (.kv es)) = .ok env') :
    ∃ es', env' = .tagged t nm (.kv es') ∧ EnvShape algs es' :=
  Except.foldlM_invariant (fun _ e => ∃ es, e = .tagged t nm (.kv es) ∧ EnvShape algs es)
    (fun _ _ _ _ ⟨_, he, hs⟩ h1 => shape_updateSeverable1 hs (he ▸ h1)) Encode.severableKeys [] _ _ ⟨es, rfl, hs⟩ h

theorem shape_updateDigest {algs} {cx : Ctx} {t : Nat} {nm : String} {es : List (KvKey × Node)} {env' : Node}
    (hs : EnvShape algs es) (h : updateDigest cx (.tagged t nm (.kv es)) = .ok env') :
    ∃ es', env' = .tagged t nm (.kv es') ∧ EnvShape algs es' := by
  obtain ⟨_, _, _, a, ks, d0, rest, alg, m, hd, he, ha, hpeel, -, -, -, rfl⟩ := updateDigest_ok h
  cases he
  obtain ⟨ks', dg, blocks, rfl, hdg⟩ := hs.auth a ha
  cases hpeel
  refine ⟨_, rfl, kvGood_kvReplace hs.good _ _, ?_, ?_, ?_⟩
  · intro a' ha'
    rw [kvGet_kvReplace_same _ ha] at ha'
    cases ha'
    -- `repeel` and `setDigestBytes` both go through the byte-string wrappers
    exact ⟨ks, setDigestBytes hd dg, rest, by simp [setDigestBytes, repeel], isDigest_setDigestBytes hd hdg⟩
  · intro m hm
    rw [kvGet_kvReplace_other es _ (by decide)] at hm
    exact hs.man m hm
  · intro k hk sv hsv
    rw [kvGet_kvReplace_other es _ (sevKeys_ne hk).1] at hsv
    exact hs.sev k hk sv hsv

end SuitVerif.Typing
