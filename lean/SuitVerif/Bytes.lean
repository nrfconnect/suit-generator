/-! L0: byte strings, fixed-width big/little-endian integers, hexadecimal text, and (from `beBytes_length` on) the lemmas about them. No imports. -/
namespace SuitVerif

abbrev Bytes := List UInt8

/-- big-endian, exactly `k` bytes (value taken modulo `256^k`). -/
def beBytes : Nat → Nat → Bytes
  | 0, _ => []
  | k+1, n => UInt8.ofNat (n / 256 ^ k) :: beBytes k (n % 256 ^ k)

/-- little-endian, exactly `k` bytes (value taken modulo `256^k`). -/
def leBytes : Nat → Nat → Bytes
  | 0, _ => []
  | k+1, n => UInt8.ofNat (n % 256) :: leBytes k (n / 256)

def ofBe : Bytes → Nat
  | [] => 0
  | b :: bs => b.toNat * 256 ^ bs.length + ofBe bs

def ofLe : Bytes → Nat
  | [] => 0
  | b :: bs => b.toNat + 256 * ofLe bs

def hexDigit (n : Nat) : Char :=
  if n < 10 then Char.ofNat (48 + n) else Char.ofNat (87 + n)

def hexDigitU (n : Nat) : Char :=
  if n < 10 then Char.ofNat (48 + n) else Char.ofNat (55 + n)

def toHexChars : Bytes → List Char
  | [] => []
  | b :: bs => hexDigit (b.toNat / 16) :: hexDigit (b.toNat % 16) :: toHexChars bs

def toHex (b : Bytes) : String := String.ofList (toHexChars b)

def toHexCharsU : Bytes → List Char
  | [] => []
  | b :: bs => hexDigitU (b.toNat / 16) :: hexDigitU (b.toNat % 16) :: toHexCharsU bs

def toHexU (b : Bytes) : String := String.ofList (toHexCharsU b)

def hexVal (c : Char) : Option Nat :=
  let n := c.toNat
  if 48 ≤ n ∧ n ≤ 57 then some (n - 48)
  else if 97 ≤ n ∧ n ≤ 102 then some (n - 87)
  else if 65 ≤ n ∧ n ≤ 70 then some (n - 55)
  else none

def ofHexChars : List Char → Option Bytes
  | [] => some []
  | [_] => none
  | a :: b :: rest =>
    match hexVal a, hexVal b, ofHexChars rest with
    | some x, some y, some r => some (UInt8.ofNat (x * 16 + y) :: r)
    | _, _, _ => none

/-- `binascii.a2b_hex` / `bytes.fromhex` on text without white space: even length, hex digits only. -/
def ofHex (s : String) : Option Bytes := ofHexChars s.toList

def utf8 (s : String) : Bytes := s.toUTF8.toList

theorem beBytes_length (k n : Nat) : (beBytes k n).length = k := by
  induction k generalizing n with
  | zero => simp [beBytes]
  | succ k ih => simp [beBytes, ih]

theorem leBytes_length (k n : Nat) : (leBytes k n).length = k := by
  induction k generalizing n with
  | zero => simp [leBytes]
  | succ k ih => simp [leBytes, ih]

theorem u8_toNat_ofNat {x : Nat} (h : x < 256) : (UInt8.ofNat x).toNat = x := by
  simp [UInt8.toNat_ofNat']; omega

theorem ofBe_beBytes (k n : Nat) (h : n < 256 ^ k) : ofBe (beBytes k n) = n := by
  induction k generalizing n with
  | zero => exact (Nat.lt_one_iff.mp h).symm
  | succ k ih =>
    have hpos : 0 < 256 ^ k := Nat.pow_pos (by decide)
    have hlt : n / 256 ^ k < 256 := (Nat.div_lt_iff_lt_mul hpos).mpr (Nat.pow_succ' ▸ h)
    rw [beBytes, ofBe, beBytes_length, ih _ (Nat.mod_lt _ hpos), u8_toNat_ofNat hlt]
    exact Nat.div_add_mod' n (256 ^ k)

theorem ofLe_leBytes (k n : Nat) (h : n < 256 ^ k) : ofLe (leBytes k n) = n := by
  induction k generalizing n with
  | zero => exact (Nat.lt_one_iff.mp h).symm
  | succ k ih =>
    have hlt : n / 256 < 256 ^ k := Nat.div_lt_of_lt_mul (Nat.pow_succ' ▸ h)
    rw [leBytes, ofLe, ih _ hlt, u8_toNat_ofNat (Nat.mod_lt _ (by decide))]
    omega

theorem ofBe_lt (b : Bytes) : ofBe b < 256 ^ b.length := by
  induction b with
  | nil => simp [ofBe]
  | cons x xs ih =>
    simp only [ofBe, List.length_cons, Nat.pow_succ]
    have h1 : x.toNat ≤ 255 := by have := x.toNat_lt; omega
    have h2 : x.toNat * 256 ^ xs.length ≤ 255 * 256 ^ xs.length := Nat.mul_le_mul_right _ h1
    omega

/-- raw ECDSA `r || s`, public key `X || Y` -/
theorem beBytes_pair (w a b : Nat) (ha : a < 256 ^ w) (hb : b < 256 ^ w) :
    (beBytes w a ++ beBytes w b).length = 2 * w ∧ ofBe ((beBytes w a ++ beBytes w b).take w) = a
      ∧ ofBe ((beBytes w a ++ beBytes w b).drop w) = b := by
  have l := beBytes_length w a
  refine ⟨by rw [List.length_append, l, beBytes_length]; omega, ?_, ?_⟩
  · rw [List.take_left' l]; exact ofBe_beBytes w a ha
  · rw [List.drop_left' l]; exact ofBe_beBytes w b hb

theorem fields4 (a b c d z : Bytes) :
    (a ++ b ++ c ++ d ++ z).take a.length = a
    ∧ ((a ++ b ++ c ++ d ++ z).drop a.length).take b.length = b
    ∧ ((a ++ b ++ c ++ d ++ z).drop (a.length + b.length)).take c.length = c
    ∧ ((a ++ b ++ c ++ d ++ z).drop (a.length + b.length + c.length)).take d.length = d
    ∧ (a ++ b ++ c ++ d ++ z).drop (a.length + b.length + c.length + d.length) = z := by
  simp only [List.append_assoc, ← List.drop_drop, List.drop_left, List.take_left, and_self]

/-! ### `a2b_hex(b.hex()) = b`, lower and upper case -/

theorem hexVal_hexDigit : ∀ n, n < 16 → hexVal (hexDigit n) = some n := by decide

theorem hexVal_hexDigitU : ∀ n, n < 16 → hexVal (hexDigitU n) = some n := by decide

theorem byte_recompose (b : UInt8) : UInt8.ofNat (b.toNat / 16 * 16 + b.toNat % 16) = b := by
  rw [Nat.div_add_mod', UInt8.ofNat_toNat]

/-- `d` is `hexDigit` or `hexDigitU` -/
theorem ofHexChars_digits {d : Nat → Char} (hd : ∀ n, n < 16 → hexVal (d n) = some n) (x : UInt8) {cs : List Char} {r : Bytes}
    (h : ofHexChars cs = some r) : ofHexChars (d (x.toNat / 16) :: d (x.toNat % 16) :: cs) = some (x :: r) := by
  have hx := x.toNat_lt
  simp only [ofHexChars, hd _ (show x.toNat / 16 < 16 by omega), hd _ (show x.toNat % 16 < 16 by omega), h, byte_recompose]

theorem ofHexChars_toHexChars (b : Bytes) : ofHexChars (toHexChars b) = some b := by
  induction b with
  | nil => rfl
  | cons x xs ih => exact ofHexChars_digits hexVal_hexDigit x ih

theorem ofHexChars_toHexCharsU (b : Bytes) : ofHexChars (toHexCharsU b) = some b := by
  induction b with
  | nil => rfl
  | cons x xs ih => exact ofHexChars_digits hexVal_hexDigitU x ih

end SuitVerif
